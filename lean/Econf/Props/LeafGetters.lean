import Econf.Props.LeafGl
import Econf.KeyFileOps

/-!
  # `econf_getGroups` (lib/libeconf.c) on the generated term

  The getter walks over the group list of the object (`GlMemA`), skips the pseudo group `_none_` of the group-less keys and
  returns the other names as a NULL-terminated array of fresh copies through the out-parameters `length` and `groups`
  (one-word cells of the caller).  The array grows by one word per name (`realloc`), so every round moves it to a new block.
-/
open MiniC Leaf LeafKf
namespace LeafKf

def ggLen : Expr := .load (.slot (.load (.var 1) .ptr) 0) .u64
def ggArr : Expr := .load (.slot (.load (.var 2) .ptr) 0) .ptr
def ggOne : Expr := .cast .u64 (.lit 1 .i32)
def ggName : Expr := .load (.slot (.sidx (.load (.slot (.load (.var 0) .ptr) 13) .ptr) (.load (.var 3) .i32) 1) 0) .ptr
def ggLast : LVal := .slot (.sidx ggArr (.bin .sub ggLen ggOne .u64) 1) 0
def ggNoMem : Stmt := .ret (some (.cast .u32 (.lit 2 .i32)))
/-- the six statements of the body: `(*length)++;` -/
def ggS1 : Stmt := .expr (.incdec (.slot (.load (.var 1) .ptr) 0) true true .u64)
def ggSize : Expr := .bin .mul (.bin .add ggLen ggOne .u64) (.lit 1 .u64) .u64
/-- `*groups = realloc(*groups, (*length + 1) * sizeof(char *));` -/
def ggS2 : Stmt := .expr (.assign (.slot (.load (.var 2) .ptr) 0) (.call "realloc_words" (.cons ggArr (.cons ggSize .nil))) .ptr)
/-- `if (*groups == NULL) return ECONF_NOMEM;` -/
def ggS3 : Stmt := .ite (.bin .eq ggArr .null .i32) ggNoMem .skip
/-- `(*groups)[*length] = NULL;` -/
def ggS4 : Stmt := .expr (.assign (.slot (.sidx ggArr ggLen 1) 0) .null .ptr)
/-- `(*groups)[*length - 1] = strdup(kf->groups[i]);` -/
def ggS5 : Stmt := .expr (.assign ggLast (.call "strdup" (.cons ggName .nil)) .ptr)
/-- `if ((*groups)[*length - 1] == NULL) return ECONF_NOMEM;` -/
def ggS6 : Stmt := .ite (.bin .eq (.load ggLast .ptr) .null .i32) ggNoMem .skip
/-- the body of `if (strcmp(kf->groups[i], "_none_"))` -/
def ggKeep : Stmt := .seq ggS1 (.seq ggS2 (.seq ggS3 (.seq ggS4 (.seq ggS5 ggS6))))
/-- `strcmp(kf->groups[i], KEY_FILE_NULL_VALUE)`; the bytes are `"_none_"`, the model's `Econf.NONE` -/
def ggCond : Expr := .call "strcmp" (.cons ggName (.cons (.strlit [95, 110, 111, 110, 101, 95]) .nil))
def ggBody : Stmt := .ite ggCond ggKeep .skip
def ggInc : Expr := .incdec (.var 3) true true .i32
def ggLoop : Stmt := .for (some glTest) (some ggInc) ggBody
def ggArgCheck : Stmt := .ite (.lor (.un .lnot (.load (.var 0) .ptr) .i32) (.bin .eq (.load (.var 2) .ptr) .null .i32)) (.ret (some (.cast .u32 (.lit 1 .i32)))) .skip
def ggCountCheck : Stmt := .ite (.bin .le (.load (.slot (.load (.var 0) .ptr) 14) .i32) (.lit 0 .i32) .i32) (.ret (some (.cast .u32 (.lit 4 .i32)))) .skip

/-- the shape of the generated term (checked by `rfl` against what the translator produced on this run) -/
theorem econf_getGroups_shape : LeafFns.econf_getGroups.body =
    .seq ggArgCheck
      (.seq ggCountCheck
        (.seq (.expr (.assign (.slot (.load (.var 2) .ptr) 0) .null .ptr))
          (.seq (.expr (.assign (.slot (.load (.var 1) .ptr) 0) (.cast .u64 (.lit 0 .i32)) .u64))
            (.seq (.expr (.assign (.var 3) (.lit 0 .i32) .i32))
              (.seq ggLoop (.ret (some (.cast .u32 (.lit 0 .i32))))))))) := rfl

/-- `kf == NULL`: ECONF_ERROR, nothing is touched -/
theorem C_econf_getGroups_null_kf (fuel : Nat) (m : Mem) (a1 a2 a3 : Val) :
    exec fuel LeafFns.econf_getGroups.body { mem := m, loc := [.null, a1, a2, a3] } =
      .ret (.int 1) { mem := m, loc := [.null, a1, a2, a3] } := by
  have ht : testOf (some (.lor (.un .lnot (.load (.var 0) .ptr) .i32) (.bin .eq (.load (.var 2) .ptr) .null .i32))) { mem := m, loc := [.null, a1, a2, a3] } =
      .ok (true, { mem := m, loc := [.null, a1, a2, a3] }) := by
    simp [mc_eval, testOf, unop, truth, boolVal]
  rw [econf_getGroups_shape]
  exact exec_seq_ret (by unfold ggArgCheck; rw [exec_ite_true ht]; exact exec_ret_u32 fuel 1 (by omega) (by omega) _)

/-- `groups == NULL`: ECONF_ERROR, nothing is touched -/
theorem C_econf_getGroups_null_groups (fuel : Nat) (m : Mem) (bk : Nat) (o : Int) (a1 a3 : Val) :
    exec fuel LeafFns.econf_getGroups.body { mem := m, loc := [.ptr bk o, a1, .null, a3] } =
      .ret (.int 1) { mem := m, loc := [.ptr bk o, a1, .null, a3] } := by
  have ht : testOf (some (.lor (.un .lnot (.load (.var 0) .ptr) .i32) (.bin .eq (.load (.var 2) .ptr) .null .i32))) { mem := m, loc := [.ptr bk o, a1, .null, a3] } =
      .ok (true, { mem := m, loc := [.ptr bk o, a1, .null, a3] }) := by
    simp [mc_eval, testOf, unop, binop, truth, boolVal]
  rw [econf_getGroups_shape]
  exact exec_seq_ret (by unfold ggArgCheck; rw [exec_ite_true ht]; exact exec_ret_u32 fuel 1 (by omega) (by omega) _)

theorem gg_argcheck (fuel : Nat) (m : Mem) (bk cg : Nat) (a1 a3 : Val) :
    exec fuel ggArgCheck { mem := m, loc := [.ptr bk 0, a1, .ptr cg 0, a3] } = .normal { mem := m, loc := [.ptr bk 0, a1, .ptr cg 0, a3] } := by
  have ht : testOf (some (.lor (.un .lnot (.load (.var 0) .ptr) .i32) (.bin .eq (.load (.var 2) .ptr) .null .i32))) { mem := m, loc := [.ptr bk 0, a1, .ptr cg 0, a3] } =
      .ok (false, { mem := m, loc := [.ptr bk 0, a1, .ptr cg 0, a3] }) := by
    simp [mc_eval, testOf, unop, binop, truth, boolVal]
  exact exec_ite_skip ht

/-- `kf->group_count <= 0` -/
theorem gg_counttest (mm : Mem) (loc : List Val) (bk n : Nat) (hl0 : loc[0]? = some (.ptr bk 0)) (hcnt : mm.loadSlot bk 14 = .ok (.int (n : Int))) :
    testOf (some (.bin .le (.load (.slot (.load (.var 0) .ptr) 14) .i32) (.lit 0 .i32) .i32)) { mem := mm, loc := loc } =
      .ok (decide (n = 0), { mem := mm, loc := loc }) := by
  by_cases h : n = 0
  · subst h
    simp [mc_eval, testOf, hl0, hcnt, binop, cmpInt, truth, boolVal]
  · have hn : ¬ ((n : Int) ≤ 0) := by omega
    simp [mc_eval, testOf, hl0, hcnt, binop, cmpInt, truth, boolVal, h]

/-- an object without groups (`group_count == 0`; with an array or – as `calloc` leaves it – without): ECONF_NOGROUP, nothing is touched -/
theorem C_econf_getGroups_nogroup (fuel : Nat) (m : Mem) (bk bl cg : Nat) (a1 a3 : Val) (h : GlMem m bk bl []) :
    exec fuel LeafFns.econf_getGroups.body { mem := m, loc := [.ptr bk 0, a1, .ptr cg 0, a3] } =
      .ret (.int 4) { mem := m, loc := [.ptr bk 0, a1, .ptr cg 0, a3] } := by
  have ht := gg_counttest m [.ptr bk 0, a1, .ptr cg 0, a3] bk 0 rfl h.count
  rw [econf_getGroups_shape, exec_seq_normal (gg_argcheck fuel m bk cg a1 a3)]
  exact exec_seq_ret (by unfold ggCountCheck; rw [exec_ite_true ht]; exact exec_ret_u32 fuel 4 (by omega) (by omega) _)

/-- … in particular for the object without a group array -/
theorem C_econf_getGroups_glnull (fuel : Nat) (m : Mem) (bk cg : Nat) (a1 a3 : Val) (h : GlNull m bk) :
    exec fuel LeafFns.econf_getGroups.body { mem := m, loc := [.ptr bk 0, a1, .ptr cg 0, a3] } =
      .ret (.int 4) { mem := m, loc := [.ptr bk 0, a1, .ptr cg 0, a3] } :=
  C_econf_getGroups_nogroup fuel m bk bk cg a1 a3 h.toGlMem

/-- `realloc(v, k + 2)` for `v` NULL (no name so far) or the array of `k` names and the terminator: a new block, one word longer -/
theorem gg_realloc (m1 : Mem) (v : Val) (k : Nat) (old : List Val)
    (hv : (v = .null ∧ k = 0 ∧ old = []) ∨
      (∃ a ab, v = .ptr a 0 ∧ m1[a]? = some ab ∧ ab.live = true ∧ ab.slots = old ++ [.null] ∧ old.length = k)) :
    ∃ x m2, builtin "realloc_words" [v, .int ((k : Int) + 2)] m1 = .ok (.ptr m1.length 0, m2) ∧ m2.length = m1.length + 1 ∧
      m2[m1.length]? = some ({ cells := [], slots := old ++ [x, .undef] } : Block) ∧
      (∀ b, b < m1.length → (∀ a, v = .ptr a 0 → b ≠ a) → m2[b]? = m1[b]?) := by
  rcases hv with ⟨rfl, rfl, rfl⟩ | ⟨a, ab, rfl, ha, hal, has, holen⟩
  · refine ⟨.undef, m1 ++ [{ cells := [], slots := [.undef, .undef] }], ?_, by simp, by simp, fun b hb _ => List.getElem?_append_left hb⟩
    simp [builtin_realloc_words_null, Mem.allocWords, List.replicate]
  · refine ⟨.null, m1.set a { ab with live := false } ++ [{ cells := [], slots := old ++ [.null, .undef] }], ?_, by simp, ?_, fun b hb hba => ?_⟩
    · have := realloc_words_spec m1 a ab (k + 2) ha hal
      have hlen : ab.slots.length = k + 1 := by rw [has]; simp [holen]
      have e1 : ab.slots.take (k + 2) = ab.slots := List.take_of_length_le (by omega)
      have e2 : (k + 2) - ab.slots.length = 1 := by omega
      have e3 : ab.slots ++ [Val.undef] = old ++ [.null, .undef] := by rw [has]; simp
      rw [e1, e2, List.replicate_one, e3] at this
      exact this
    · rw [List.getElem?_append_right (by simp)]; simp
    · rw [List.getElem?_append_left (by simpa using hb), set_other (hba a rfl)]

/-- `(*length + 1) * sizeof(char *)` in words -/
theorem gg_size (mm : Mem) (loc : List Val) (cl j : Nat) (lb : Block) (hl1 : loc[1]? = some (.ptr cl 0))
    (hcl : mm[cl]? = some { lb with slots := [.int (j : Int)] }) (hlb : lb.live = true) (hj : (j : Int) + 1 < 18446744073709551616) :
    evalE ggSize { mem := mm, loc := loc } = .ok (.int ((j : Int) + 1), { mem := mm, loc := loc }) := by
  have hw1 : wrapTo .u64 ((j : Int) + 1) = (j : Int) + 1 := wrapTo_u64_small _ (by omega) hj
  have hw2 : wrapTo .u64 (((j : Int) + 1) * 1) = (j : Int) + 1 := by rw [Int.mul_one, hw1]
  have c := cell_load 1 .u64 mm loc cl lb _ hl1 hcl hlb (by simp)
  have hone : evalE ggOne { mem := mm, loc := loc } = .ok (.int 1, { mem := mm, loc := loc }) := by
    simp [mc_eval, ggOne, convert, w64_one]
  unfold ggSize ggLen
  simp only [mc_eval, c, hone, binop, cmpInt, arith_u64, hw1, hw2]

/-- the place of the last name, `(*groups)[*length - 1]` -/
theorem gg_last (mm : Mem) (loc : List Val) (cl cg a k : Nat) (lb gb ab : Block) (hl1 : loc[1]? = some (.ptr cl 0)) (hl2 : loc[2]? = some (.ptr cg 0))
    (hcl : mm[cl]? = some { lb with slots := [.int ((k + 1 : Nat) : Int)] }) (hcg : mm[cg]? = some { gb with slots := [.ptr a 0] })
    (hlb : lb.live = true) (hgb : gb.live = true) (ha : mm[a]? = some ab) (hal : ab.live = true) (hk : k ≤ ab.slots.length)
    (hsmall : (k : Int) + 1 < 18446744073709551616) :
    evalL ggLast { mem := mm, loc := loc } = .ok (.slot a (k : Int), { mem := mm, loc := loc }) := by
  have hI : evalE (.bin .sub ggLen ggOne .u64) { mem := mm, loc := loc } = .ok (.int (k : Int), { mem := mm, loc := loc }) := by
    have hw : wrapTo .u64 (((k + 1 : Nat) : Int) - 1) = (k : Int) := by rw [wrapTo_u64_small _ (by omega) (by omega)]; omega
    have c := cell_load 1 .u64 mm loc cl lb _ hl1 hcl hlb (by simp)
    have hone : evalE ggOne { mem := mm, loc := loc } = .ok (.int 1, { mem := mm, loc := loc }) := by
      simp [mc_eval, ggOne, convert, w64_one]
    unfold ggLen
    simp only [mc_eval, c, hone, binop, cmpInt, arith_u64, hw]
  exact evalL_word (cell_load 2 .ptr mm loc cg gb _ hl2 hcg hgb (by simp)) hI ha hal hk

/-- the first four statements of the body of the `if`: the counter goes up, the array moves to a new block (`mm.length`) with one more
    word (or is made, when there was none), the terminator is written -/
theorem gg_grow (fuel : Nat) (mm : Mem) (loc : List Val) (cl cg : Nat) (lb gb : Block) (k : Nat) (v : Val) (old : List Val)
    (hl1 : loc[1]? = some (.ptr cl 0)) (hl2 : loc[2]? = some (.ptr cg 0))
    (hlb1 : lb.live = true) (hlb2 : lb.writable = true) (hgb1 : gb.live = true) (hgb2 : gb.writable = true)
    (hcl : mm[cl]? = some { lb with slots := [.int (k : Int)] }) (hcg : mm[cg]? = some { gb with slots := [v] }) (hne : cl ≠ cg)
    (hv : (v = .null ∧ k = 0 ∧ old = []) ∨
      (∃ a ab, v = .ptr a 0 ∧ mm[a]? = some ab ∧ ab.live = true ∧ ab.slots = old ++ [.null] ∧ old.length = k ∧ a ≠ cl ∧ a ≠ cg))
    (hk : (k : Int) + 2 < 18446744073709551616) :
    ∃ x m4, exec fuel ggKeep { mem := mm, loc := loc } = exec fuel (.seq ggS5 ggS6) { mem := m4, loc := loc } ∧ m4.length = mm.length + 1 ∧
      m4[cl]? = some { lb with slots := [.int ((k + 1 : Nat) : Int)] } ∧ m4[cg]? = some { gb with slots := [.ptr mm.length 0] } ∧
      m4[mm.length]? = some { cells := [], slots := old ++ [x, .null] } ∧
      (∀ b, b < mm.length → b ≠ cl → b ≠ cg → (∀ a, v = .ptr a 0 → b ≠ a) → m4[b]? = mm[b]?) := by
  have hclt : cl < mm.length := (List.getElem?_eq_some_iff.1 hcl).1
  have hcgt : cg < mm.length := (List.getElem?_eq_some_iff.1 hcg).1
  have hcgL : cg ≠ mm.length := Nat.ne_of_lt hcgt
  have hclL : cl ≠ mm.length := Nat.ne_of_lt hclt
  have hk1 : (k : Int) + 1 < 18446744073709551616 := by omega
  have hvu : v ≠ .undef := by rcases hv with ⟨rfl, _⟩ | ⟨a, ab, rfl, _⟩ <;> simp
  have holen : old.length = k := by
    rcases hv with ⟨_, rfl, rfl⟩ | ⟨a, ab, _, _, _, _, h, _⟩
    · rfl
    · exact h
  have hvne : ∀ a, v = .ptr a 0 → cl ≠ a ∧ cg ≠ a := by
    intro a hva
    rcases hv with ⟨rfl, _⟩ | ⟨a', ab, rfl, _, _, _, _, hacl, hacg⟩
    · simp at hva
    · injection hva with hva; subst hva; exact ⟨Ne.symm hacl, Ne.symm hacg⟩
  -- (*length)++
  obtain ⟨m1, hm1⟩ : ∃ m1 : Mem, m1 = mm.set cl { lb with slots := [.int ((k + 1 : Nat) : Int)] } := ⟨_, rfl⟩
  have hm1len : m1.length = mm.length := by rw [hm1]; simp
  have hm1cl : m1[cl]? = some { lb with slots := [.int ((k + 1 : Nat) : Int)] } := by rw [hm1, List.getElem?_set_self hclt]
  have hm1o : ∀ b, b ≠ cl → m1[b]? = mm[b]? := fun b hb => by rw [hm1, set_other hb]
  have hS1 : exec fuel ggS1 { mem := mm, loc := loc } = .normal { mem := m1, loc := loc } := by
    have a1 : mm.loadSlot cl 0 = .ok (.int (k : Int)) := loadSlot_of (i := 0) hcl hlb1 rfl (by simp)
    have hst : mm.storeSlot cl 0 (.int ((k : Int) + 1)) = .ok m1 := by
      rw [hm1]; exact storeSlot_of (i := 0) (.int ((k : Int) + 1)) hcl hlb1 hlb2 (by simp)
    have hev := incdec_u64_slot mm m1 loc (.load (.var 1) .ptr) cl k (evalE_var (ty := .ptr) (st := ⟨mm, loc⟩) hl1 (by simp)) a1 hk1 hst
    simp only [mc_exec, ggS1, hev]
  -- *groups = realloc(*groups, (*length + 1) * sizeof(char *))
  obtain ⟨x, m2, hre, hm2len, hm2L, hm2fr⟩ := gg_realloc m1 v k old (by
    rcases hv with h | ⟨a, ab, h1, h2, h3, h4, h5, h6, _⟩
    · exact Or.inl h
    · exact Or.inr ⟨a, ab, h1, by rw [hm1o a h6]; exact h2, h3, h4, h5⟩)
  rw [hm1len] at hre hm2len hm2L hm2fr
  have hm2cg : m2[cg]? = some { gb with slots := [v] } := by
    rw [hm2fr cg hcgt (fun a ha => (hvne a ha).2), hm1o cg (Ne.symm hne)]; exact hcg
  obtain ⟨m3, hm3⟩ : ∃ m3 : Mem, m3 = m2.set cg { gb with slots := [.ptr mm.length 0] } := ⟨_, rfl⟩
  have hS2 : exec fuel ggS2 { mem := m1, loc := loc } = .normal { mem := m3, loc := loc } := by
    have hsz := gg_size m1 loc cl (k + 1) lb hl1 hm1cl hlb1 (by omega)
    have e : (((k + 1 : Nat) : Int) + 1) = (k : Int) + 2 := by omega
    rw [e] at hsz
    have ca := cell_load 2 .ptr m1 loc cg gb v hl2 (by rw [hm1o cg (Ne.symm hne)]; exact hcg) hgb1 hvu
    have hcall : evalE (.call "realloc_words" (.cons ggArr (.cons ggSize .nil))) { mem := m1, loc := loc } =
        .ok (.ptr mm.length 0, { mem := m2, loc := loc }) := by
      unfold ggArr
      simp only [mc_eval, ca, hsz, hre]
    rw [hm3]
    exact cell_store fuel 2 _ .ptr m1 m2 loc loc cg { gb with slots := [v] } _ _ hl2 hcall rfl (by simp) hm2cg hgb1 hgb2 rfl
  have hm3cg : m3[cg]? = some { gb with slots := [.ptr mm.length 0] } := by
    rw [hm3, List.getElem?_set_self (by rw [hm2len]; exact Nat.lt_succ_of_lt hcgt)]
  have hm3cl : m3[cl]? = some { lb with slots := [.int ((k + 1 : Nat) : Int)] } := by
    rw [hm3, set_other hne, hm2fr cl hclt (fun a ha => (hvne a ha).1)]; exact hm1cl
  have hm3L : m3[mm.length]? = some { cells := [], slots := old ++ [x, .undef] } := by
    rw [hm3, set_other (Ne.symm hcgL)]; exact hm2L
  have c3a := cell_load 2 .ptr m3 loc cg gb _ hl2 hm3cg hgb1 (by simp)
  have hS3 : exec fuel ggS3 { mem := m3, loc := loc } = .normal { mem := m3, loc := loc } := exec_ite_skip (testOf_ptr c3a).1
  -- (*groups)[*length] = NULL
  obtain ⟨m4, hm4⟩ : ∃ m4 : Mem, m4 = m3.set mm.length { cells := [], slots := old ++ [x, .null] } := ⟨_, rfl⟩
  have hS4 : exec fuel ggS4 { mem := m3, loc := loc } = .normal { mem := m4, loc := loc } := by
    have c3l := cell_load 1 .u64 m3 loc cl lb _ hl1 hm3cl hlb1 (by simp)
    have hst : m3.storeSlot mm.length ((k + 1 : Nat) : Int) .null = .ok m4 := by
      have := storeSlot_of (m := m3) (i := k + 1) .null hm3L rfl rfl (by simp [holen])
      have e : (old ++ [x, Val.undef]).set (k + 1) .null = old ++ [x, .null] := by
        rw [List.set_append_right _ _ (by omega)]; simp [holen]
      rw [hm4, this, e]
    exact exec_assign_slot (evalL_word c3a c3l hm3L rfl (by simp [holen])) (evalE_null _) rfl (by simp) hst
  refine ⟨x, m4, ?_, by rw [hm4, hm3]; simp [hm2len], ?_, ?_, ?_, fun b hb hbl hbg hba => ?_⟩
  · unfold ggKeep
    rw [exec_seq_normal hS1, exec_seq_normal hS2, exec_seq_normal hS3, exec_seq_normal hS4]
  · rw [hm4, set_other hclL]; exact hm3cl
  · rw [hm4, set_other hcgL]; exact hm3cg
  · rw [hm4, List.getElem?_set_self (by rw [hm3]; simp [hm2len])]
  · rw [hm4, set_other (Nat.ne_of_lt hb), hm3, set_other hbg, hm2fr b hb hba, hm1o b hbl]

/-- the body of the `if`: the counter goes up, the array moves to a new block with one more word (or is made, when there was none), the
    terminator and a fresh copy of the name are written -/
theorem gg_keep (fuel : Nat) (mm : Mem) (loc : List Val) (cl cg sb : Nat) (lb gb : Block) (k : Nat) (v : Val) (old : List Val) (s : List UInt8)
    (hl1 : loc[1]? = some (.ptr cl 0)) (hl2 : loc[2]? = some (.ptr cg 0))
    (hlb1 : lb.live = true) (hlb2 : lb.writable = true) (hgb1 : gb.live = true) (hgb2 : gb.writable = true)
    (hcl : mm[cl]? = some { lb with slots := [.int (k : Int)] }) (hcg : mm[cg]? = some { gb with slots := [v] }) (hne : cl ≠ cg)
    (hv : (v = .null ∧ k = 0 ∧ old = []) ∨
      (∃ a ab, v = .ptr a 0 ∧ mm[a]? = some ab ∧ ab.live = true ∧ ab.slots = old ++ [.null] ∧ old.length = k ∧ a ≠ cl ∧ a ≠ cg))
    (hk : (k : Int) + 2 < 18446744073709551616)
    (hname : ∀ mm' : Mem, (∀ b, b < mm.length → b ≠ cl → b ≠ cg → (∀ a, v = .ptr a 0 → b ≠ a) → mm'[b]? = mm[b]?) →
      evalE ggName { mem := mm', loc := loc } = .ok (.ptr sb 0, { mem := mm', loc := loc }) ∧ mm'.cstr sb 0 = .ok s) :
    ∃ m', exec fuel ggKeep { mem := mm, loc := loc } = .normal { mem := m', loc := loc } ∧
      m'.length = mm.length + 2 ∧
      m'[cl]? = some { lb with slots := [.int ((k + 1 : Nat) : Int)] } ∧ m'[cg]? = some { gb with slots := [.ptr mm.length 0] } ∧
      m'[mm.length]? = some { cells := [], slots := old ++ [.ptr (mm.length + 1) 0, .null] } ∧
      m'.cstr (mm.length + 1) 0 = .ok s ∧
      (∀ b, b < mm.length → b ≠ cl → b ≠ cg → (∀ a, v = .ptr a 0 → b ≠ a) → m'[b]? = mm[b]?) := by
  have hclt : cl < mm.length := (List.getElem?_eq_some_iff.1 hcl).1
  have hcgt : cg < mm.length := (List.getElem?_eq_some_iff.1 hcg).1
  have holen : old.length = k := by
    rcases hv with ⟨_, rfl, rfl⟩ | ⟨a, ab, _, _, _, _, h, _⟩
    · rfl
    · exact h
  have hk1 : (k : Int) + 1 < 18446744073709551616 := by omega
  obtain ⟨x, m4, hex, hm4len, hm4cl, hm4cg, hm4L, hm4fr⟩ := gg_grow fuel mm loc cl cg lb gb k v old hl1 hl2 hlb1 hlb2 hgb1 hgb2 hcl hcg hne hv hk
  obtain ⟨hnm, hs4⟩ := hname m4 hm4fr
  -- (*groups)[*length - 1] = strdup(kf->groups[i])
  have hl4 := gg_last m4 loc cl cg mm.length k lb gb _ hl1 hl2 hm4cl hm4cg hlb1 hgb1 hm4L rfl (by simp [holen]) hk1
  obtain ⟨m6, hS5, hm6len, hm6L, hm6s, hm6fr⟩ := exec_strdup_word (fuel := fuel) hl4 hnm hs4 hm4L (by simp [holen])
  rw [hm4len] at hm6len hm6L hm6s hm6fr
  have e : (old ++ [x, Val.null]).set k (.ptr (mm.length + 1) 0) = old ++ [.ptr (mm.length + 1) 0, .null] := by
    rw [List.set_append_right _ _ (by omega)]; simp [holen]
  rw [e] at hm6L
  have hm6cl : m6[cl]? = some { lb with slots := [.int ((k + 1 : Nat) : Int)] } := by
    rw [hm6fr cl (Nat.lt_succ_of_lt hclt) (Nat.ne_of_lt hclt)]; exact hm4cl
  have hm6cg : m6[cg]? = some { gb with slots := [.ptr mm.length 0] } := by
    rw [hm6fr cg (Nat.lt_succ_of_lt hcgt) (Nat.ne_of_lt hcgt)]; exact hm4cg
  have hS6 : exec fuel ggS6 { mem := m6, loc := loc } = .normal { mem := m6, loc := loc } := by
    have hl6 := gg_last m6 loc cl cg mm.length k lb gb _ hl1 hl2 hm6cl hm6cg hlb1 hgb1 hm6L rfl (by simp [holen]) hk1
    have hld : m6.loadSlot mm.length (k : Int) = .ok (.ptr (mm.length + 1) 0) :=
      loadSlot_of hm6L rfl (by rw [List.getElem?_append_right (by omega)]; simp [holen]) (by simp)
    have hev : evalE (.load ggLast .ptr) { mem := m6, loc := loc } = .ok (.ptr (mm.length + 1) 0, { mem := m6, loc := loc }) := by
      simp only [mc_eval, hl6, hld]
    exact exec_ite_skip (testOf_ptr hev).1
  refine ⟨m6, by rw [hex]; unfold ggS5; rw [exec_seq_normal hS5]; exact hS6, by omega, hm6cl, hm6cg, hm6L, hm6s, fun b hb hbl hbg hba => ?_⟩
  rw [hm6fr b (Nat.lt_succ_of_lt hb) (Nat.ne_of_lt hb)]
  exact hm4fr b hb hbl hbg hba

/-- the names `econf_getGroups` returns: all but the pseudo group of the group-less keys, in the order of the list -/
def keptNames (gl : List (Nat × List UInt8)) : List (List UInt8) := (gl.map (·.2)).filter (· != Econf.NONE)

/-- What the caller finds in memory `mm` after (and during) `econf_getGroups`, started in memory `m` with the cells `cl` (`size_t length`,
    block `lb` before the call) and `cg` (`char **groups`, block `gb`): every block of `m` other than the two cells is as it was; the
    length cell holds the number of names; the array cell holds NULL when there is no name, and otherwise points at a block that did
    not exist in `m`, made of one pointer per name and a final NULL; the i-th pointer leads to a block that did not exist in `m` and
    holds the i-th name as a C string (`res` lists block and name). -/
structure GgOut (m : Mem) (cl cg : Nat) (lb gb : Block) (mm : Mem) (res : List (Nat × List UInt8)) : Prop where
  len : m.length ≤ mm.length
  frame : ∀ b, b < m.length → b ≠ cl → b ≠ cg → mm[b]? = m[b]?
  lenc : mm[cl]? = some { lb with slots := [.int (res.length : Int)] }
  arr : (res = [] ∧ mm[cg]? = some { gb with slots := [.null] }) ∨
    (res ≠ [] ∧ ∃ a, m.length ≤ a ∧ mm[cg]? = some { gb with slots := [.ptr a 0] } ∧
      mm[a]? = some { cells := [], slots := res.map (fun e => Val.ptr e.1 0) ++ [.null] })
  strs : ∀ e, e ∈ res → m.length ≤ e.1 ∧ mm.cstr e.1 0 = .ok e.2

theorem GgOut.grow {m cl cg lb gb mm res} (h : GgOut m cl cg lb gb mm res) {mm' : Mem} (hm : ∀ b, b < mm.length → mm'[b]? = mm[b]?)
    (hl : mm.length ≤ mm'.length) : GgOut m cl cg lb gb mm' res := by
  refine ⟨Nat.le_trans h.len hl, fun b hb h1 h2 => ?_, by rw [hm cl (List.getElem?_eq_some_iff.1 h.lenc).1]; exact h.lenc, ?_, fun e he => ?_⟩
  · rw [hm b (Nat.lt_of_lt_of_le hb h.len)]; exact h.frame b hb h1 h2
  · rcases h.arr with ⟨h1, h2⟩ | ⟨h1, a, h2, h3, h4⟩
    · exact Or.inl ⟨h1, by rw [hm cg (List.getElem?_eq_some_iff.1 h2).1]; exact h2⟩
    · exact Or.inr ⟨h1, a, h2, by rw [hm cg (List.getElem?_eq_some_iff.1 h3).1]; exact h3, by rw [hm a (List.getElem?_eq_some_iff.1 h4).1]; exact h4⟩
  · obtain ⟨h1, h2⟩ := h.strs e he
    exact ⟨h1, by rw [cstr_congr (hm e.1 (cstr_lt h2))]; exact h2⟩

theorem gg_glmem {m mm : Mem} {bk bl cl cg : Nat} {gl : List (Nat × List UInt8)} (h : GlMemA m bk bl gl)
    (hd : cl ≠ bk ∧ cl ≠ bl ∧ cg ≠ bk ∧ cg ≠ bl) (hds : ∀ e, e ∈ gl → e.1 ≠ cl ∧ e.1 ≠ cg)
    (hfr : ∀ b, b < m.length → b ≠ cl → b ≠ cg → mm[b]? = m[b]?) : GlMemA mm bk bl gl := by
  have hG := h.toGlMem
  have := hG.mono_of (m' := mm) (hfr bk hG.bk_lt (Ne.symm hd.1) (Ne.symm hd.2.2.1)) (hfr bl hG.bl_lt (Ne.symm hd.2.1) (Ne.symm hd.2.2.2))
    (fun b str hc ⟨e, he, hb⟩ => by
      subst hb
      exact hfr _ (cstr_lt hc) (hds e he).1 (hds e he).2)
  rcases this with hA | ⟨rfl, rfl, hn⟩
  · exact hA
  · -- the empty list: the array of the original is still there
    obtain ⟨kb, k1, k2, k3, k4⟩ := h.kf
    obtain ⟨nb, n1, n2, n3, n4⟩ := hn
    rw [hfr bl hG.bk_lt (Ne.symm hd.1) (Ne.symm hd.2.2.1), k1] at n1
    injection n1 with n1; subst n1
    rw [k3] at n3; simp at n3

/-- `kf->groups[i]` -/
theorem gg_name {mm : Mem} {bk bl : Nat} {gl : List (Nat × List UInt8)} (hA : GlMemA mm bk bl gl) (i : Nat) (hi : i < gl.length) (a1 a2 : Val) :
    evalE ggName { mem := mm, loc := [.ptr bk 0, a1, a2, .int (i : Int)] } = .ok (.ptr (gl[i]).1 0, { mem := mm, loc := [.ptr bk 0, a1, a2, .int (i : Int)] }) ∧
      mm.cstr (gl[i]).1 0 = .ok (gl[i]).2 :=
  ⟨gl_elem hA a1 a2 i hi, (hA.elem i hi).2⟩

theorem NONE_nz : (0 : UInt8) ∉ Econf.NONE := by decide

/-- the test of the `if`: a read-only block for the literal is added, the answer is whether the name differs from `_none_` -/
theorem gg_cond {mm : Mem} {bk bl : Nat} {gl : List (Nat × List UInt8)} (hA : GlMemA mm bk bl gl) (i : Nat) (hi : i < gl.length) (a1 a2 : Val) :
    testOf (some ggCond) { mem := mm, loc := [.ptr bk 0, a1, a2, .int (i : Int)] } =
      .ok ((gl[i]).2 != Econf.NONE, { mem := mm ++ [{ cells := (Econf.NONE ++ [0]).map some, writable := false }], loc := [.ptr bk 0, a1, a2, .int (i : Int)] }) := by
  obtain ⟨hn, c1⟩ := gg_name hA i hi a1 a2
  have c1' : (mm ++ [({ cells := (Econf.NONE ++ [0]).map some, writable := false } : Block)]).cstr (gl[i]).1 0 = .ok (gl[i]).2 := by
    rw [cstr_congr (List.getElem?_append_left (cstr_lt c1))]; exact c1
  have hcall := strcmp_eval hn (evalE_strlit _ [95, 110, 111, 110, 101, 95]) c1' (lit_cstr mm Econf.NONE NONE_nz)
  unfold ggCond
  generalize ggName = N at hcall ⊢
  simp only [testOf, mc_eval, hcall, truth, cmpBytes_bne _ _ (cstr_nz c1) NONE_nz]
  rfl

theorem keptNames_take_succ (gl : List (Nat × List UInt8)) (i : Nat) (hi : i < gl.length) :
    keptNames (gl.take (i + 1)) = keptNames (gl.take i) ++ (if (gl[i]).2 != Econf.NONE then [(gl[i]).2] else []) := by
  rw [List.take_succ_eq_append_getElem hi]
  unfold keptNames
  rw [List.map_append, List.filter_append]
  by_cases h : ((gl[i]).2 != Econf.NONE) = true <;> simp [List.filter, h]

theorem gg_round_keep (fuel : Nat) {m mm : Mem} {bk bl cl cg : Nat} {gl : List (Nat × List UInt8)} {lb gb : Block} {res : List (Nat × List UInt8)}
    (h : GlMemA m bk bl gl) (hl1 : lb.live = true) (hl2 : lb.writable = true) (hg1 : gb.live = true) (hg2 : gb.writable = true)
    (hclt : cl < m.length) (hcgt : cg < m.length)
    (hne : cl ≠ cg) (hd : cl ≠ bk ∧ cl ≠ bl ∧ cg ≠ bk ∧ cg ≠ bl) (hds : ∀ e, e ∈ gl → e.1 ≠ cl ∧ e.1 ≠ cg)
    (hO : GgOut m cl cg lb gb mm res) (i : Nat) (hi : i < gl.length) (hk : (res.length : Int) + 2 < 18446744073709551616) :
    ∃ m', exec fuel ggKeep { mem := mm, loc := [.ptr bk 0, .ptr cl 0, .ptr cg 0, .int (i : Int)] } =
        .normal { mem := m', loc := [.ptr bk 0, .ptr cl 0, .ptr cg 0, .int (i : Int)] } ∧
      GgOut m cl cg lb gb m' (res ++ [(mm.length + 1, (gl[i]).2)]) := by
  obtain ⟨v, hcg, hv, hva⟩ : ∃ v, mm[cg]? = some { gb with slots := [v] } ∧
      ((v = .null ∧ res.length = 0 ∧ res.map (fun e => Val.ptr e.1 0) = []) ∨
        (∃ a ab, v = .ptr a 0 ∧ mm[a]? = some ab ∧ ab.live = true ∧ ab.slots = res.map (fun e => Val.ptr e.1 0) ++ [.null] ∧
          (res.map (fun e => Val.ptr e.1 0)).length = res.length ∧ a ≠ cl ∧ a ≠ cg)) ∧
      (∀ a, v = .ptr a 0 → m.length ≤ a ∧ ∃ sl, mm[a]? = some { cells := [], slots := sl }) := by
    rcases hO.arr with ⟨h1, h2⟩ | ⟨h1, a, h2, h3, h4⟩
    · exact ⟨.null, h2, Or.inl ⟨rfl, by simp [h1], by simp [h1]⟩, fun a ha => by simp at ha⟩
    · refine ⟨.ptr a 0, h3, Or.inr ⟨a, _, rfl, h4, rfl, rfl, by simp, Nat.ne_of_gt (Nat.lt_of_lt_of_le hclt h2), Nat.ne_of_gt (Nat.lt_of_lt_of_le hcgt h2)⟩, fun a' ha' => ?_⟩
      injection ha' with ha'; subst ha'
      exact ⟨h2, _, h4⟩
  have hfrm : ∀ mm' : Mem, (∀ b, b < mm.length → b ≠ cl → b ≠ cg → (∀ a, v = .ptr a 0 → b ≠ a) → mm'[b]? = mm[b]?) →
      ∀ b, b < m.length → b ≠ cl → b ≠ cg → mm'[b]? = m[b]? := by
    intro mm' hfr b hb h1 h2
    rw [hfr b (Nat.lt_of_lt_of_le hb hO.len) h1 h2 (fun a ha => by have := (hva a ha).1; omega)]
    exact hO.frame b hb h1 h2
  obtain ⟨m', hex, hlen, hcl', hcg', hL', hnew, hfr'⟩ := gg_keep fuel mm [.ptr bk 0, .ptr cl 0, .ptr cg 0, .int (i : Int)] cl cg (gl[i]).1 lb gb
    res.length v (res.map (fun e => Val.ptr e.1 0)) (gl[i]).2 rfl rfl hl1 hl2 hg1 hg2 hO.lenc hcg hne hv hk
    (fun mm' hfr => gg_name (gg_glmem h hd hds (hfrm mm' hfr)) i hi _ _)
  refine ⟨m', hex, ⟨by have := hO.len; omega, hfrm m' hfr', by simpa using hcl', Or.inr ⟨by simp, mm.length, hO.len, hcg', by simpa using hL'⟩, fun e he => ?_⟩⟩
  rcases List.mem_append.1 he with he | he
  · obtain ⟨s1, s2⟩ := hO.strs e he
    refine ⟨s1, ?_⟩
    rw [cstr_congr (hfr' e.1 (cstr_lt s2) (Nat.ne_of_gt (Nat.lt_of_lt_of_le hclt s1)) (Nat.ne_of_gt (Nat.lt_of_lt_of_le hcgt s1)) (fun a ha heq => ?_))]
    · exact s2
    · obtain ⟨_, sl, hsl⟩ := hva a ha
      rw [heq] at s2
      exact no_cstr hsl rfl _ s2
  · simp at he
    subst he
    exact ⟨by have := hO.len; simp; omega, hnew⟩

/-- one round of the loop: the body (which adds a read-only block for the literal and keeps the name or not), the step -/
theorem gg_round (fuel : Nat) {m mm : Mem} {bk bl cl cg : Nat} {gl : List (Nat × List UInt8)} {lb gb : Block} {res : List (Nat × List UInt8)}
    (h : GlMemA m bk bl gl) (hl1 : lb.live = true) (hl2 : lb.writable = true) (hg1 : gb.live = true) (hg2 : gb.writable = true)
    (hclt : cl < m.length) (hcgt : cg < m.length)
    (hne : cl ≠ cg) (hd : cl ≠ bk ∧ cl ≠ bl ∧ cg ≠ bk ∧ cg ≠ bl) (hds : ∀ e, e ∈ gl → e.1 ≠ cl ∧ e.1 ≠ cg)
    (hO : GgOut m cl cg lb gb mm res) (i : Nat) (hi : i < gl.length) (hres : res.map (·.2) = keptNames (gl.take i))
    (hsmall : (gl.length : Int) + 1 < 2147483648) :
    ∃ m' res', exec fuel ggBody { mem := mm, loc := [.ptr bk 0, .ptr cl 0, .ptr cg 0, .int (i : Int)] } =
        .normal { mem := m', loc := [.ptr bk 0, .ptr cl 0, .ptr cg 0, .int (i : Int)] } ∧
      stepOf (some ggInc) { mem := m', loc := [.ptr bk 0, .ptr cl 0, .ptr cg 0, .int (i : Int)] } =
        .ok { mem := m', loc := [.ptr bk 0, .ptr cl 0, .ptr cg 0, .int ((i + 1 : Nat) : Int)] } ∧
      res'.map (·.2) = keptNames (gl.take (i + 1)) ∧ GgOut m cl cg lb gb m' res' := by
  have hA : GlMemA mm bk bl gl := gg_glmem h hd hds hO.frame
  have hc := gg_cond hA i hi (.ptr cl 0) (.ptr cg 0)
  have hstep : ∀ mq : Mem, stepOf (some ggInc) { mem := mq, loc := [.ptr bk 0, .ptr cl 0, .ptr cg 0, .int (i : Int)] } =
      .ok { mem := mq, loc := [.ptr bk 0, .ptr cl 0, .ptr cg 0, .int ((i + 1 : Nat) : Int)] } := fun mq =>
    stepOf_some _ _ _ _ (incdec_i32_var3 mq (.ptr bk 0) (.ptr cl 0) (.ptr cg 0) (i : Int) (by omega) (by omega))
  have hO1 : GgOut m cl cg lb gb (mm ++ [{ cells := (Econf.NONE ++ [0]).map some, writable := false }]) res :=
    hO.grow (fun b hb => List.getElem?_append_left hb) (by simp)
  have hkn := keptNames_take_succ gl i hi
  have hreslen : res.length ≤ gl.length := by
    have : res.length = (keptNames (gl.take i)).length := by rw [← hres]; simp
    rw [this]; unfold keptNames
    exact Nat.le_trans (List.length_filter_le _ _) (by simp; omega)
  by_cases hkeep : ((gl[i]).2 != Econf.NONE) = true
  · rw [hkeep] at hc
    obtain ⟨m', hex, hO'⟩ := gg_round_keep fuel h hl1 hl2 hg1 hg2 hclt hcgt hne hd hds hO1 i hi (by omega)
    refine ⟨m', _, by unfold ggBody; rw [exec_ite_true hc]; exact hex, hstep m', ?_, hO'⟩
    rw [hkn, List.map_append, hres]; simp [hkeep]
  · have hkeep' : ((gl[i]).2 != Econf.NONE) = false := by simpa using hkeep
    rw [hkeep'] at hc
    refine ⟨_, res, by unfold ggBody; exact exec_ite_skip hc, hstep _, ?_, hO1⟩
    rw [hkn, hres]; simp [hkeep']

/-- `econf_getGroups` on an object with groups: success; the caller finds the names other than `_none_` as described by `GgOut` -/
theorem C_econf_getGroups (m : Mem) (bk bl cl cg : Nat) (gl : List (Nat × List UInt8)) (lb gb : Block) (v3 : Val)
    (h : GlMemA m bk bl gl) (hgl : gl ≠ [])
    (hcl : m[cl]? = some lb) (hl1 : lb.live = true) (hl2 : lb.writable = true) (hl3 : lb.slots.length = 1)
    (hcg : m[cg]? = some gb) (hg1 : gb.live = true) (hg2 : gb.writable = true) (hg3 : gb.slots.length = 1)
    (hne : cl ≠ cg) (hd : cl ≠ bk ∧ cl ≠ bl ∧ cg ≠ bk ∧ cg ≠ bl) (hds : ∀ e, e ∈ gl → e.1 ≠ cl ∧ e.1 ≠ cg)
    (hsmall : (gl.length : Int) + 1 < 2147483648) (fuel : Nat) (hf : gl.length + 1 < fuel) :
    ∃ m' loc' res, exec fuel LeafFns.econf_getGroups.body { mem := m, loc := [.ptr bk 0, .ptr cl 0, .ptr cg 0, v3] } =
        .ret (.int 0) { mem := m', loc := loc' } ∧
      res.map (·.2) = keptNames gl ∧ GgOut m cl cg lb gb m' res := by
  have hclt : cl < m.length := (List.getElem?_eq_some_iff.1 hcl).1
  have hcgt : cg < m.length := (List.getElem?_eq_some_iff.1 hcg).1
  rw [econf_getGroups_shape, exec_seq_normal (gg_argcheck fuel m bk cg _ _)]
  have hc2 : exec fuel ggCountCheck { mem := m, loc := [.ptr bk 0, .ptr cl 0, .ptr cg 0, v3] } = .normal { mem := m, loc := [.ptr bk 0, .ptr cl 0, .ptr cg 0, v3] } := by
    have ht := gg_counttest m [.ptr bk 0, .ptr cl 0, .ptr cg 0, v3] bk gl.length rfl h.toGlMem.count
    have hn : decide (gl.length = 0) = false := by simp [hgl]
    rw [hn] at ht
    exact exec_ite_skip ht
  -- *groups = NULL; *length = 0; i = 0
  obtain ⟨m1, hm1⟩ : ∃ m1 : Mem, m1 = m.set cg { gb with slots := [.null] } := ⟨_, rfl⟩
  obtain ⟨m2, hm2⟩ : ∃ m2 : Mem, m2 = m1.set cl { lb with slots := [.int ((0 : Nat) : Int)] } := ⟨_, rfl⟩
  have hS1 := cell_store fuel 2 .null .ptr m m [.ptr bk 0, .ptr cl 0, .ptr cg 0, v3] _ cg gb .null .null rfl (evalE_null _) rfl (by simp) hcg hg1 hg2 hg3
  rw [← hm1] at hS1
  have hm1cl : m1[cl]? = some lb := by rw [hm1, set_other hne]; exact hcl
  have hS2 := cell_store fuel 1 (.cast .u64 (.lit 0 .i32)) .u64 m1 m1 [.ptr bk 0, .ptr cl 0, .ptr cg 0, v3] _ cl lb _ _ rfl (evalE_u64_zero _)
    (convert_u64_small _ (Int.natCast_nonneg 0) (by decide)) (by simp) hm1cl hl1 hl2 hl3
  rw [← hm2] at hS2
  have hS3 : exec fuel (.expr (.assign (.var 3) (.lit 0 .i32) .i32)) { mem := m2, loc := [.ptr bk 0, .ptr cl 0, .ptr cg 0, v3] } =
      .normal { mem := m2, loc := [.ptr bk 0, .ptr cl 0, .ptr cg 0, .int ((0 : Nat) : Int)] } :=
    exec_assign_var (v := .int 0) (evalE_lit _ 0 .i32) (by simp [convert, wrapTo_i32 0 (by omega) (by omega)]) (by simp)
  rw [exec_seq_normal hc2, exec_seq_normal hS1, exec_seq_normal hS2, exec_seq_normal hS3]
  have hO0 : GgOut m cl cg lb gb m2 [] := by
    refine ⟨by rw [hm2, hm1]; simp, fun b hb h1 h2 => by rw [hm2, hm1, set_other h1, set_other h2], ?_, Or.inl ⟨rfl, ?_⟩, fun e he => by simp at he⟩
    · rw [hm2, List.getElem?_set_self (by rw [hm1]; simpa using hclt)]; rfl
    · rw [hm2, set_other (Ne.symm hne), hm1, List.getElem?_set_self hcgt]
  obtain ⟨m', hl, res, hres, hOR⟩ := for_upto fuel gl.length glTest ggInc ggBody (fun i => [.ptr bk 0, .ptr cl 0, .ptr cg 0, .int (i : Int)])
    (fun i mm => ∃ res, res.map (·.2) = keptNames (gl.take i) ∧ GgOut m cl cg lb gb mm res)
    (fun i mm _ ⟨res, _, hO⟩ => by
      have := gl_test (gg_glmem h hd hds hO.frame).toGlMem (.ptr cl 0) (.ptr cg 0) (i : Int)
      simpa using this)
    (fun i mm hi ⟨res, hres, hO⟩ => by
      obtain ⟨m', res', hb, hs, hres', hO'⟩ := gg_round fuel h hl1 hl2 hg1 hg2 hclt hcgt hne hd hds hO i hi hres hsmall
      exact ⟨m', _, hb, hs, res', hres', hO'⟩)
    m2 ⟨[], by simp [keptNames], hO0⟩ (by omega)
  rw [exec_seq_normal (show exec fuel ggLoop _ = _ from hl)]
  exact ⟨m', _, res, exec_ret_u32 fuel 0 (by omega) (by omega) _, by rw [hres, List.take_length], hOR⟩

/-- the connection to the list-level model: for an object whose group list is the list of names, `Econf.getGroups` returns exactly the names the C function
    delivers (`keptNames`), and ECONF_NOGROUP for the empty list -/
theorem getGroups_model (kf : Econf.KeyFile) (gl : List (Nat × List UInt8)) (hk : kf.groups = gl.map (·.2)) :
    Econf.getGroups kf = if gl = [] then .error .nogroup else .ok (keptNames gl) := by
  unfold Econf.getGroups keptNames
  rw [hk]
  cases gl <;> simp

/-- what the caller reads off `GgOut`: the number in the length cell; for at least one name the array and, behind its i-th word, the i-th name -/
theorem GgOut.read {m cl cg lb gb mm res} (h : GgOut m cl cg lb gb mm res) (hl1 : lb.live = true) (hg1 : gb.live = true) :
    mm.loadSlot cl 0 = .ok (.int (res.length : Int)) ∧
    (res = [] → mm.loadSlot cg 0 = .ok .null) ∧
    (res ≠ [] → ∃ a, m.length ≤ a ∧ mm.loadSlot cg 0 = .ok (.ptr a 0) ∧ mm.loadSlot a (res.length : Int) = .ok .null ∧
      ∀ i (hi : i < res.length), mm.loadSlot a (i : Int) = .ok (.ptr (res[i]).1 0) ∧ m.length ≤ (res[i]).1 ∧ mm.cstr (res[i]).1 0 = .ok (res[i]).2) := by
  refine ⟨by simpa using loadSlot_of (i := 0) h.lenc (by simpa using hl1) (by simp) (by simp), fun hr => ?_, fun hr => ?_⟩
  · rcases h.arr with ⟨_, h2⟩ | ⟨h1, _⟩
    · simpa using loadSlot_of (i := 0) (v := .null) h2 (by simpa using hg1) (by simp) (by simp)
    · exact absurd hr h1
  · rcases h.arr with ⟨h1, _⟩ | ⟨_, a, h2, h3, h4⟩
    · exact absurd h1 hr
    · refine ⟨a, h2, by simpa using loadSlot_of (i := 0) (v := .ptr a 0) h3 (by simpa using hg1) (by simp) (by simp), ?_, fun i hi => ?_⟩
      · exact loadSlot_of (i := res.length) h4 rfl (by rw [List.getElem?_append_right (by simp)]; simp) (by simp)
      · obtain ⟨s1, s2⟩ := h.strs (res[i]) (List.getElem_mem hi)
        exact ⟨loadSlot_of (i := i) h4 rfl (by rw [List.getElem?_append_left (by simpa using hi)]; simp [hi]) (by simp), s1, s2⟩

/-- `C_econf_getGroups` against the list-level model: the C function succeeds and delivers what `Econf.getGroups` returns for the object
    with these group names -/
theorem C_econf_getGroups_model (kf : Econf.KeyFile) (m : Mem) (bk bl cl cg : Nat) (gl : List (Nat × List UInt8)) (lb gb : Block) (v3 : Val)
    (hkf : kf.groups = gl.map (·.2))
    (h : GlMemA m bk bl gl) (hgl : gl ≠ [])
    (hcl : m[cl]? = some lb) (hl1 : lb.live = true) (hl2 : lb.writable = true) (hl3 : lb.slots.length = 1)
    (hcg : m[cg]? = some gb) (hg1 : gb.live = true) (hg2 : gb.writable = true) (hg3 : gb.slots.length = 1)
    (hne : cl ≠ cg) (hd : cl ≠ bk ∧ cl ≠ bl ∧ cg ≠ bk ∧ cg ≠ bl) (hds : ∀ e, e ∈ gl → e.1 ≠ cl ∧ e.1 ≠ cg)
    (hsmall : (gl.length : Int) + 1 < 2147483648) (fuel : Nat) (hf : gl.length + 1 < fuel) :
    ∃ m' loc' res, exec fuel LeafFns.econf_getGroups.body { mem := m, loc := [.ptr bk 0, .ptr cl 0, .ptr cg 0, v3] } =
        .ret (.int 0) { mem := m', loc := loc' } ∧
      Econf.getGroups kf = .ok (res.map (·.2)) ∧ GgOut m cl cg lb gb m' res := by
  obtain ⟨m', loc', res, hex, hres, hO⟩ := C_econf_getGroups m bk bl cl cg gl lb gb v3 h hgl hcl hl1 hl2 hl3 hcg hg1 hg2 hg3 hne hd hds hsmall fuel hf
  refine ⟨m', loc', res, hex, ?_, hO⟩
  rw [getGroups_model kf gl hkf, hres]; simp [hgl]

end LeafKf

namespace LeafKf.Example

/-! A concrete caller's memory that meets every hypothesis of `C_econf_getGroups`: an object with the groups `_none_`, `A`, `B` and two
    uninitialised variables `size_t length; char **groups;`. -/

def ggMem : Mem := [
  /- 0, 1, 2 the names -/ strBlock Econf.NONE, strBlock [65], strBlock [66],
  /- 3 the group array -/ { cells := [], slots := [.ptr 0 0, .ptr 1 0, .ptr 2 0, .null] },
  /- 4 the object -/ { cells := [], slots := [.null, .int 0, .int 0, .int 61, .int 35, .int 0, .null, .int 0, .int 0, .null, .int 0, .null, .int 0, .ptr 3 0, .int 3, .null] },
  /- 5 `length` -/ { cells := [], slots := [.undef] },
  /- 6 `groups` -/ { cells := [], slots := [.undef] }]

def ggGl : List (Nat × List UInt8) := [(0, Econf.NONE), (1, [65]), (2, [66])]

theorem gg_ok : GlMemA ggMem 4 3 ggGl :=
  ⟨⟨_, rfl, rfl, rfl, rfl⟩, ⟨_, rfl, rfl, rfl, fun i hi => by
    have : i = 0 ∨ i = 1 ∨ i = 2 := by simp [ggGl] at hi; omega
    rcases this with rfl | rfl | rfl <;> exact ⟨rfl, by simp only [ggGl, List.getElem_cons_zero, List.getElem_cons_succ]; rfl⟩⟩⟩

/-- the call `econf_getGroups(kf, &length, &groups)` in that memory: success, two names `A` and `B` in fresh blocks behind a fresh array -/
theorem run_getGroups : ∃ m' loc' res,
    exec 10 LeafFns.econf_getGroups.body { mem := ggMem, loc := [.ptr 4 0, .ptr 5 0, .ptr 6 0, .undef] } = .ret (.int 0) { mem := m', loc := loc' } ∧
    res.map (·.2) = [[65], [66]] ∧ GgOut ggMem 5 6 { cells := [], slots := [.undef] } { cells := [], slots := [.undef] } m' res ∧
    m'.loadSlot 5 0 = .ok (.int 2) := by
  obtain ⟨m', loc', res, hex, hres, hO⟩ := C_econf_getGroups ggMem 4 3 5 6 ggGl _ _ .undef gg_ok (by decide) rfl rfl rfl rfl rfl rfl rfl rfl
    (by decide) (by decide) (fun e he => by simp [ggGl] at he; rcases he with rfl | rfl | rfl <;> decide) (by decide) 10 (by decide)
  have hk : keptNames ggGl = [[65], [66]] := by decide
  rw [hk] at hres
  have hlen : res.length = 2 := by simpa using congrArg List.length hres
  have hcell := (hO.read rfl rfl).1
  rw [hlen] at hcell
  exact ⟨m', loc', res, hex, hres, hO, hcell⟩

end LeafKf.Example
