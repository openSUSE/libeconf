import Econf.Props.LeafGl
open MiniC Leaf LeafKf
namespace LeafKf

/-!
  `insert_nogroup` of lib/mergefiles.c on the generated term (`C_insert_nogroup`: the array starts with the model's `insertNoGroup`),
  and what the three loops of the merge share: an object with its entries in memory (`SrcMem`), the expressions over entry `i` of an
  object in any frame (`ef_*`), the array under construction (`ArrSt`, `ArrSt.append`), the entries a loop selects (`selBy`).
-/

/-! ## a source object and its entries -/

/-- an `econf_file` (block `bo`) whose entry array (block `ba`) holds the entries `es`; none of the blocks involved is in `avoid` -/
structure SrcMem (m : Mem) (bo ba : Nat) (es : List Econf.Entry) (avoid : List Nat) : Prop where
  kf : ∃ blk, m[bo]? = some blk ∧ blk.live = true ∧ blk.slots[0]? = some (.ptr ba 0) ∧ blk.slots[1]? = some (.int es.length)
  kfav : bo ∉ avoid
  arr : ∃ blk, m[ba]? = some blk ∧ blk.live = true ∧ blk.slots.length = 7 * es.length
  arrav : ba ∉ avoid
  ents : ∀ i (h : i < es.length), EntMem m ba (7 * i) es[i] avoid

theorem SrcMem.mono {m m' : Mem} {bo ba : Nat} {es : List Econf.Entry} {avoid : List Nat} (h : SrcMem m bo ba es avoid)
    (hm : ∀ b, b < m.length → b ∉ avoid → m'[b]? = m[b]?) : SrcMem m' bo ba es avoid := by
  obtain ⟨kb, k1, k2, k3, k4⟩ := h.kf
  obtain ⟨ab, a1, a2, a3⟩ := h.arr
  refine ⟨⟨kb, by rw [hm bo (List.getElem?_eq_some_iff.1 k1).1 h.kfav]; exact k1, k2, k3, k4⟩, h.kfav,
    ⟨ab, by rw [hm ba (List.getElem?_eq_some_iff.1 a1).1 h.arrav]; exact a1, a2, a3⟩, h.arrav, fun i hi => (h.ents i hi).mono hm⟩

/-- the look-up functions see the object through its groups and keys -/
theorem SrcMem.toKf {m : Mem} {bo ba : Nat} {es : List Econf.Entry} {avoid : List Nat} (h : SrcMem m bo ba es avoid) :
    KfMem m bo ba (entsOf es) := by
  obtain ⟨kb, k1, k2, k3, k4⟩ := h.kf
  obtain ⟨ab, a1, a2, a3⟩ := h.arr
  have hl : (entsOf es).length = es.length := by simp [entsOf]
  refine ⟨⟨kb, k1, k2, k3, by rw [hl]; exact k4⟩, ⟨ab, a1, a2, by rw [hl]; exact a3, ?_⟩⟩
  intro i hi
  have hi' : i < es.length := by rw [hl] at hi; exact hi
  obtain ⟨bg, g1, g2, _⟩ := (h.ents i hi').grp
  obtain ⟨bq, q1, q2, _⟩ := (h.ents i hi').key
  have s1 := (loadSlot_inv (i := 7 * i) (by simpa using g1) a1).1
  have s2 := (loadSlot_inv (i := 7 * i + 1) (by simpa using q1) a1).1
  refine ⟨bg, bq, s1, s2, ?_, ?_⟩
  · simpa [entsOf] using g2
  · simpa [entsOf] using q2

theorem SrcMem.arrp {m : Mem} {bo ba : Nat} {es : List Econf.Entry} {avoid : List Nat} (h : SrcMem m bo ba es avoid) :
    m.loadSlot bo 0 = .ok (.ptr ba 0) := h.toKf.arrp

theorem SrcMem.len {m : Mem} {bo ba : Nat} {es : List Econf.Entry} {avoid : List Nat} (h : SrcMem m bo ba es avoid) :
    m.loadSlot bo 1 = .ok (.int es.length) := by simpa [entsOf] using h.toKf.len

theorem EntMem.weaken {m : Mem} {bs os : Nat} {e : Econf.Entry} {av av' : List Nat} (h : EntMem m bs os e av) (hsub : ∀ b, b ∉ av → b ∉ av') :
    EntMem m bs os e av' :=
  h.transfer (fun _ _ _ => rfl) (fun b _ hb => hsub b hb)

/-- every pointer member of an entry names a block that holds a string and is not to be avoided -/
theorem EntMem.ptr_str {m : Mem} {bs os : Nat} {e : Econf.Entry} {av : List Nat} (h : EntMem m bs os e av) :
    ∀ k : Nat, k < 5 → ∀ b, m.loadSlot bs ((os : Int) + (k : Int)) = .ok (.ptr b 0) → (∃ str, m.cstr b 0 = .ok str) ∧ b ∉ av := by
  obtain ⟨bg, g1, g2, g3⟩ := h.grp
  obtain ⟨bq, k1, k2, k3⟩ := h.key
  obtain ⟨v, v1, v2, v3⟩ := h.val
  obtain ⟨vb, b1, b2, b3⟩ := h.cb
  obtain ⟨va, a1, a2, a3⟩ := h.ca
  have opt : ∀ (w : Val) (so : Option (List UInt8)) (b : Nat), OptStr m w so → w = .ptr b 0 → ∃ str, m.cstr b 0 = .ok str := by
    intro w so b hv hw
    cases hv with
    | none => cases hw
    | some b2 str hc => cases hw; exact ⟨str, hc⟩
  intro k hk b hl
  have hk' : k = 0 ∨ k = 1 ∨ k = 2 ∨ k = 3 ∨ k = 4 := by omega
  rcases hk' with rfl | rfl | rfl | rfl | rfl
  · have : (Except.ok (Val.ptr bg 0) : R Val) = .ok (.ptr b 0) := by rw [← g1]; simpa using hl
    injection this with this; injection this with this; subst this; exact ⟨⟨_, g2⟩, g3⟩
  · have : (Except.ok (Val.ptr bq 0) : R Val) = .ok (.ptr b 0) := by rw [← k1]; simpa using hl
    injection this with this; injection this with this; subst this; exact ⟨⟨_, k2⟩, k3⟩
  · have : (Except.ok v : R Val) = .ok (.ptr b 0) := by rw [← v1]; simpa using hl
    injection this with this; exact ⟨opt v _ b v2 this, v3 b this⟩
  · have : (Except.ok vb : R Val) = .ok (.ptr b 0) := by rw [← b1]; simpa using hl
    injection this with this; exact ⟨opt vb _ b b2 this, b3 b this⟩
  · have : (Except.ok va : R Val) = .ok (.ptr b 0) := by rw [← a1]; simpa using hl
    injection this with this; exact ⟨opt va _ b a2 this, a3 b this⟩

/-- an entry with another value: the other members are read as before (from `bs'`, in `m'`) and their strings are kept,
    the value word is described afresh -/
theorem EntMem.with_value {m m' : Mem} {bs bs' os : Nat} {e : Econf.Entry} {av av' : List Nat} (h : EntMem m bs os e av) (hself : bs' ∉ av')
    (hw : ∀ (k : Nat) (w : Val), k < 6 → k ≠ 2 → m.loadSlot bs ((os : Int) + (k : Int)) = .ok w → m'.loadSlot bs' ((os : Int) + (k : Int)) = .ok w)
    (hp : ∀ (k b : Nat), k < 5 → k ≠ 2 → m.loadSlot bs ((os : Int) + (k : Int)) = .ok (.ptr b 0) → m'[b]? = m[b]? ∧ b ∉ av')
    (val : Option (List UInt8)) (hv : ∃ v, m'.loadSlot bs' ((os : Int) + 2) = .ok v ∧ OptStr m' v val ∧ ∀ b, v = .ptr b 0 → b ∉ av') :
    EntMem m' bs' os { e with value := val } av' := by
  obtain ⟨bg, g1, g2, g3⟩ := h.grp
  obtain ⟨bq, k1, k2, k3⟩ := h.key
  obtain ⟨vb, b1, b2, b3⟩ := h.cb
  obtain ⟨va, a1, a2, a3⟩ := h.ca
  have opt : ∀ (k : Nat) (w : Val) (so : Option (List UInt8)), k < 5 → k ≠ 2 → m.loadSlot bs ((os : Int) + (k : Int)) = .ok w → OptStr m w so →
      OptStr m' w so ∧ ∀ b, w = .ptr b 0 → b ∉ av' := by
    intro k w so hk hk2 hl ho
    cases ho with
    | none => exact ⟨.none, fun b hb => by cases hb⟩
    | some b str hc =>
      obtain ⟨p1, p2⟩ := hp k b hk hk2 hl
      exact ⟨.some b str (by rw [cstr_congr p1]; exact hc), fun b' hb' => by cases hb'; exact p2⟩
  have g1' : m.loadSlot bs ((os : Int) + ((0 : Nat) : Int)) = .ok (.ptr bg 0) := by simpa using g1
  have k1' : m.loadSlot bs ((os : Int) + ((1 : Nat) : Int)) = .ok (.ptr bq 0) := by simpa using k1
  have b1' : m.loadSlot bs ((os : Int) + ((3 : Nat) : Int)) = .ok vb := by simpa using b1
  have a1' : m.loadSlot bs ((os : Int) + ((4 : Nat) : Int)) = .ok va := by simpa using a1
  have l1' : m.loadSlot bs ((os : Int) + ((5 : Nat) : Int)) = .ok (.int (e.line : Int)) := by simpa using h.line
  obtain ⟨pg1, pg2⟩ := hp 0 bg (by decide) (by decide) g1'
  obtain ⟨pk1, pk2⟩ := hp 1 bq (by decide) (by decide) k1'
  obtain ⟨ob1, ob2⟩ := opt 3 vb _ (by decide) (by decide) b1' b2
  obtain ⟨oa1, oa2⟩ := opt 4 va _ (by decide) (by decide) a1' a2
  exact ⟨hself, ⟨bg, by simpa using hw 0 _ (by decide) (by decide) g1', by rw [cstr_congr pg1]; exact g2, pg2⟩,
    ⟨bq, by simpa using hw 1 _ (by decide) (by decide) k1', by rw [cstr_congr pk1]; exact k2, pk2⟩, hv,
    ⟨vb, by simpa using hw 3 _ (by decide) (by decide) b1', ob1, ob2⟩,
    ⟨va, by simpa using hw 4 _ (by decide) (by decide) a1', oa1, oa2⟩,
    by simpa using hw 5 _ (by decide) (by decide) l1'⟩

/-- an entry is the same entry in a memory (and block) that keeps its seven words and the blocks its own pointers name -/
theorem EntMem.reblock' {m m' : Mem} {fa fa' os : Nat} {e : Econf.Entry} {av av' : List Nat} {ablk ablk' : Block}
    (h : EntMem m fa os e av) (ha : m[fa]? = some ablk) (ha' : m'[fa']? = some ablk') (hl' : ablk'.live = true)
    (hw : ∀ k, k < 7 → ablk'.slots[os + k]? = ablk.slots[os + k]?)
    (hm : ∀ k : Nat, k < 5 → ∀ b, m.loadSlot fa ((os : Int) + (k : Int)) = .ok (.ptr b 0) → m'[b]? = m[b]?)
    (hav : ∀ k : Nat, k < 5 → ∀ b, m.loadSlot fa ((os : Int) + (k : Int)) = .ok (.ptr b 0) → b ∉ av') (hfa : fa' ∉ av') : EntMem m' fa' os e av' := by
  have word : ∀ (k : Nat) (w : Val), k < 7 → m.loadSlot fa ((os : Int) + (k : Int)) = .ok w → m'.loadSlot fa' ((os : Int) + (k : Int)) = .ok w := by
    intro k w hk hl
    rw [← Int.natCast_add] at hl ⊢
    obtain ⟨s1, s2, _⟩ := loadSlot_inv hl ha
    exact loadSlot_of ha' hl' (by rw [hw k hk]; exact s1) s2
  obtain ⟨v, v1, v2, v3⟩ := h.val
  have v1' : m.loadSlot fa ((os : Int) + ((2 : Nat) : Int)) = .ok v := by simpa using v1
  exact h.with_value hfa (fun k w hk _ => word k w (by omega)) (fun k b hk _ hl => ⟨hm k hk b hl, hav k hk b hl⟩) e.value
    ⟨v, by simpa using word 2 v (by decide) v1', v2.mono (fun b hb => hm 2 (by decide) b (hb ▸ v1')), fun b hb => hav 2 (by decide) b (hb ▸ v1')⟩

/-- an element of an array is the same element in another block that holds the same seven words, when the blocks that hold its
    strings are kept -/
theorem EntMem.reblock {m m' : Mem} {fa fa' os : Nat} {e : Econf.Entry} {av av' : List Nat} {ablk ablk' : Block}
    (h : EntMem m fa os e av) (ha : m[fa]? = some ablk) (ha' : m'[fa']? = some ablk') (hl' : ablk'.live = true)
    (hw : ∀ k, k < 7 → ablk'.slots[os + k]? = ablk.slots[os + k]?)
    (hm : ∀ b str, m.cstr b 0 = .ok str → b ∉ av → m'[b]? = m[b]?)
    (hav : ∀ b, b < m.length → b ∉ av → b ∉ av') (hfa : fa' ∉ av') : EntMem m' fa' os e av' :=
  h.reblock' ha ha' hl' hw
    (fun k hk b hl => let ⟨⟨str, hc⟩, hb⟩ := h.ptr_str k hk b hl; hm b str hc hb)
    (fun k hk b hl => let ⟨⟨_, hc⟩, hb⟩ := h.ptr_str k hk b hl; hav b (cstr_lt hc) hb) hfa

/-- an element of the array stays what it is when other elements are written and the blocks its strings live in are kept -/
theorem EntMem.keep_in_array {m m' : Mem} {fa os : Nat} {e : Econf.Entry} {av av' : List Nat} {ablk ablk' : Block}
    (h : EntMem m fa os e av) (ha : m[fa]? = some ablk) (ha' : m'[fa]? = some ablk') (hl' : ablk'.live = true)
    (hw : ∀ k, k < 7 → ablk'.slots[os + k]? = ablk.slots[os + k]?)
    (hm : ∀ b, b < m.length → b ∉ av → b ≠ fa → m'[b]? = m[b]?) (hnostr : ∀ str, m.cstr fa 0 ≠ .ok str)
    (hav : ∀ b, b < m.length → b ∉ av → b ∉ av') (hfa : fa ∉ av') : EntMem m' fa os e av' :=
  h.reblock ha ha' hl' hw (fun b str hc hb => hm b (cstr_lt hc) hb (fun hh => hnostr str (hh ▸ hc))) hav hfa

theorem addGroup_idem (gs : List (List UInt8)) (g : List UInt8) : Econf.addGroup (Econf.addGroup gs g) g = Econf.addGroup gs g := by
  unfold Econf.addGroup
  by_cases h : gs.contains g = true
  · simp only [h, if_true]
  · have h' : gs.contains g = false := by simpa using h
    have h2 : (gs ++ [g]).contains g = true := by simp
    simp only [h', Bool.false_eq_true, if_false, h2, if_true]

/-! ## entry `i` of an object, in any frame: the object in variable `vk`, the counter in variable `vi` -/

/-- `kf->file_entry[i]` -/
abbrev efAt (vk vi : Nat) : Expr := .sidx (.load (.slot (.load (.var vk) .ptr) 0) .ptr) (.load (.var vi) .u64) 7

theorem ef_src (vk vi : Nat) (mm : Mem) (loc : List Val) (be bea : Nat) (es : List Econf.Entry) (av : List Nat) (i : Nat)
    (hS : SrcMem mm be bea es av) (hi : i ≤ es.length) (hlk : loc[vk]? = some (.ptr be 0)) (hlv : loc[vi]? = some (.int (i : Int))) :
    evalE (efAt vk vi) { mem := mm, loc := loc } = .ok (.ptr bea (((7 * i : Nat)) : Int), { mem := mm, loc := loc }) := by
  rw [show (((7 * i : Nat)) : Int) = (i : Int) * 7 by omega]
  exact hS.toKf.evalEntry hlk hlv (by simpa [entsOf] using hi)

/-- a member of entry `i` (`group` is word 0, `key` word 1, …) -/
theorem ef_member (vk vi : Nat) (mm : Mem) (loc : List Val) (be bea : Nat) (es : List Econf.Entry) (av : List Nat) (i k : Nat) (w : Val)
    (hS : SrcMem mm be bea es av) (hi : i < es.length) (hlk : loc[vk]? = some (.ptr be 0)) (hlv : loc[vi]? = some (.int (i : Int)))
    (hw : mm.loadSlot bea (((7 * i : Nat) : Int) + (k : Int)) = .ok w) :
    evalE (.load (.slot (efAt vk vi) k) .ptr) { mem := mm, loc := loc } = .ok (w, { mem := mm, loc := loc }) := by
  have hsrc := ef_src vk vi mm loc be bea es av i hS (Nat.le_of_lt hi) hlk hlv
  generalize efAt vk vi = S at hsrc ⊢
  simp only [mc_eval, hsrc, hw]

/-- `kf->file_entry[i].group` (`entField vk vi 0`) -/
theorem ef_group (vk vi : Nat) (mm : Mem) (loc : List Val) (be bea : Nat) (es : List Econf.Entry) (av : List Nat) (i : Nat)
    (hS : SrcMem mm be bea es av) (hi : i < es.length) (hlk : loc[vk]? = some (.ptr be 0)) (hlv : loc[vi]? = some (.int (i : Int))) :
    ∃ bg, evalE (.load (.slot (efAt vk vi) 0) .ptr) { mem := mm, loc := loc } = .ok (.ptr bg 0, { mem := mm, loc := loc }) ∧
      mm.cstr bg 0 = .ok (es[i]).group := by
  simpa [entsOf, entField] using hS.toKf.evalGroup hlk hlv (by simpa [entsOf] using hi)

/-- `i < kf->length` -/
theorem ef_test (vk vi : Nat) (mm : Mem) (loc : List Val) (be bea : Nat) (es : List Econf.Entry) (av : List Nat) (i : Nat)
    (hS : SrcMem mm be bea es av) (hlk : loc[vk]? = some (.ptr be 0)) (hlv : loc[vi]? = some (.int (i : Int))) :
    testOf (some (kfTest vk vi)) { mem := mm, loc := loc } = .ok (decide (i < es.length), { mem := mm, loc := loc }) := by
  simpa [entsOf] using hS.toKf.evalTest hlk hlv

/-- `v == kf->length`, object in variable `vk` -/
theorem ef_len_eq (vk vi : Nat) (mm : Mem) (loc : List Val) (be bea : Nat) (es : List Econf.Entry) (av : List Nat) (i : Nat)
    (hS : SrcMem mm be bea es av) (hlk : loc[vk]? = some (.ptr be 0)) (hlv : loc[vi]? = some (.int (i : Int))) :
    testOf (some (.bin .eq (.load (.var vi) .u64) (.load (.slot (.load (.var vk) .ptr) 1) .u64) .i32)) { mem := mm, loc := loc } =
      .ok (decide (i = es.length), { mem := mm, loc := loc }) := by
  obtain ⟨kb, k1, k2, k3, k4⟩ := hS.kf
  have hl1 : mm.loadSlot be 1 = .ok (.int es.length) := by simpa using loadSlot_of (i := 1) k1 k2 k4 (by simp)
  by_cases h : i = es.length
  · simp [mc_eval, testOf, hlk, hlv, hl1, binop, cmpInt, boolVal, truth, h]
  · have : ¬ (i : Int) = (es.length : Int) := by omega
    simp [mc_eval, testOf, hlk, hlv, hl1, binop, cmpInt, boolVal, truth, this, h]

/-- `!strcmp(kf->file_entry[i].group, group)` with the group name in variable `vg` -/
theorem ef_group_eq (vk vi vg : Nat) (mm : Mem) (loc : List Val) (be bea bg : Nat) (es : List Econf.Entry) (av : List Nat) (i : Nat) (g : List UInt8)
    (hS : SrcMem mm be bea es av) (hi : i < es.length) (hlk : loc[vk]? = some (.ptr be 0)) (hlv : loc[vi]? = some (.int (i : Int)))
    (hlg : loc[vg]? = some (.ptr bg 0)) (hg : mm.cstr bg 0 = .ok g) :
    testOf (some (.un .lnot (.call "strcmp" (.cons (.load (.slot (efAt vk vi) 0) .ptr) (.cons (.load (.var vg) .ptr) .nil))) .i32)) { mem := mm, loc := loc } =
      .ok (decide ((es[i]).group = g), { mem := mm, loc := loc }) := by
  have hd : decide ((es[i]).group = g) = ((es[i]).group == g) := by
    rw [Bool.eq_iff_iff, decide_eq_true_iff, beq_iff_eq]
  rw [hd]
  simpa [entsOf, entField, fieldIs] using testOf_boolVal (hS.toKf.groupIs hlk hlv hlg hg (by simpa [entsOf] using hi))

/-- the read-only block the literal `"_none_"` (`Econf.NONE`) becomes when `strcmp` is called with it -/
def noneLit : Block := { cells := (Econf.NONE ++ [0]).map some, writable := false }

/-- `!strcmp(kf->file_entry[i].group, "_none_")`: the answer is whether the group is the group-less marker -/
theorem ef_none (vk vi : Nat) (mm : Mem) (loc : List Val) (be bea : Nat) (es : List Econf.Entry) (av : List Nat) (i : Nat)
    (hS : SrcMem mm be bea es av) (hi : i < es.length) (hlk : loc[vk]? = some (.ptr be 0)) (hlv : loc[vi]? = some (.int (i : Int))) :
    testOf (some (.un .lnot (.call "strcmp" (.cons (.load (.slot (efAt vk vi) 0) .ptr) (.cons (.strlit Econf.NONE) .nil))) .i32))
        { mem := mm, loc := loc } = .ok (decide ((es[i]).group = Econf.NONE), { mem := mm ++ [noneLit], loc := loc }) := by
  obtain ⟨bg, hld, g2⟩ := ef_group vk vi mm loc be bea es av i hS hi hlk hlv
  exact not_strcmp_lit_test _ { mem := mm, loc := loc } bg _ _ hld g2 (by decide)

/-- `x = first_definition(kf, i)` -/
theorem ef_first_definition (vk vi t : Nat) (fuel : Nat) (mm : Mem) (loc : List Val) (be bea : Nat) (es : List Econf.Entry) (av : List Nat) (i : Nat)
    (hS : SrcMem mm be bea es av) (hi : i < es.length) (hlk : loc[vk]? = some (.ptr be 0)) (hlv : loc[vi]? = some (.int (i : Int)))
    (ht : t < loc.length) (hsmall : (es.length : Int) + 1 < 18446744073709551616) (hf : es.length < fuel) :
    exec fuel (.inl (some (.var t)) .bool (.cons (.load (.var vk) .ptr) (.cons (.load (.var vi) .u64) .nil)) 3 LeafFns.first_definition.body)
        { mem := mm, loc := loc } =
      .normal { mem := mm, loc := loc.set t (.int (if firstIdx (entsOf es) (es[i]).group (es[i]).key = i then 1 else 0)) } := by
  have hel : (entsOf es).length = es.length := by simp [entsOf]
  obtain ⟨loc', hfd⟩ := first_definition_exec mm be bea (entsOf es) i (by rw [hel]; exact hi) hS.toKf (by rw [hel]; exact hsmall) fuel (by rw [hel]; exact hf)
  have hent : (entsOf es)[i]'(by rw [hel]; exact hi) = ((es[i]).group, (es[i]).key) := by simp [entsOf]
  rw [hent] at hfd
  have hargs : evalArgs (.cons (.load (.var vk) .ptr) (.cons (.load (.var vi) .u64) .nil)) { mem := mm, loc := loc } =
      .ok ([.ptr be 0, .int (i : Int)], { mem := mm, loc := loc }) := by
    simp only [mc_eval, evalE_var (ty := .ptr) (st := { mem := mm, loc := loc }) hlk (by simp), evalE_var (ty := .u64) (st := { mem := mm, loc := loc }) hlv (by simp)]
  exact exec_inl_val (st' := { mem := mm, loc := loc' }) hargs (by simpa using hfd) (by split <;> simp [convert, wrapTo]) ht

/-- `x = has_group(kf, g)`, the name being the value of the expression `G` -/
theorem call_has_group (vu t : Nat) (G : Expr) (fuel : Nat) (mm mm' : Mem) (loc : List Val) (bu bua bg : Nat) (us : List Econf.Entry) (g : List UInt8)
    (hU : KfMem mm' bu bua (entsOf us)) (hlu : loc[vu]? = some (.ptr bu 0))
    (hG : evalE G { mem := mm, loc := loc } = .ok (.ptr bg 0, { mem := mm', loc := loc })) (hg : mm'.cstr bg 0 = .ok g)
    (ht : t < loc.length) (hsmall : (us.length : Int) + 1 < 18446744073709551616) (hf : us.length < fuel) :
    exec fuel (.inl (some (.var t)) .bool (.cons (.load (.var vu) .ptr) (.cons G .nil)) 3 LeafFns.has_group.body) { mem := mm, loc := loc } =
      .normal { mem := mm', loc := loc.set t (.int (if Econf.hasGroup us g then 1 else 0)) } := by
  obtain ⟨locg, hhg⟩ := C_has_group mm' bu bua bg us g hU hg hsmall fuel hf
  have hargs : evalArgs (.cons (.load (.var vu) .ptr) (.cons G .nil)) { mem := mm, loc := loc } =
      .ok ([.ptr bu 0, .ptr bg 0], { mem := mm', loc := loc }) := by
    simp only [mc_eval, evalE_var (ty := .ptr) (st := { mem := mm, loc := loc }) hlu (by simp), hG]
  exact exec_inl_val (st' := { mem := mm', loc := locg }) hargs (by simpa using hhg) (by split <;> simp [convert, wrapTo]) ht

/-- `t = first_entry(kf, group, key)`: object in variable `vk`, group name in variable `vg`, the key read by any expression -/
theorem call_first_entry (fuel : Nat) (vk vg t : Nat) (K : Expr) (mm : Mem) (loc : List Val) (bu bua bg bq : Nat) (us : List Econf.Entry) (av : List Nat)
    (g k : List UInt8) (hU : SrcMem mm bu bua us av) (hlk : loc[vk]? = some (.ptr bu 0)) (hlg : loc[vg]? = some (.ptr bg 0))
    (hK : evalE K { mem := mm, loc := loc } = .ok (.ptr bq 0, { mem := mm, loc := loc }))
    (hg : mm.cstr bg 0 = .ok g) (hk : mm.cstr bq 0 = .ok k) (ht : t < loc.length)
    (hsmall : (us.length : Int) + 1 < 18446744073709551616) (hf : us.length < fuel) :
    exec fuel (.inl (some (.var t)) .u64 (.cons (.load (.var vk) .ptr) (.cons (.load (.var vg) .ptr) (.cons K .nil))) 4 LeafFns.first_entry.body)
        { mem := mm, loc := loc } =
      .normal { mem := mm, loc := loc.set t (.int ((firstIdx (entsOf us) g k : Nat) : Int)) } := by
  have hul : (entsOf us).length = us.length := by simp [entsOf]
  have hfe := first_entry_exec mm bu bua bg bq (entsOf us) g k hU.toKf hg hk (hul ▸ hsmall) fuel (hul ▸ hf)
  have hfile := firstIdx_le (entsOf us) g k
  have hwf : wrapTo .u64 ((firstIdx (entsOf us) g k : Nat) : Int) = ((firstIdx (entsOf us) g k : Nat) : Int) := wrapTo_u64_small _ (by omega) (by omega)
  have hargs : evalArgs (.cons (.load (.var vk) .ptr) (.cons (.load (.var vg) .ptr) (.cons K .nil))) { mem := mm, loc := loc } =
      .ok ([.ptr bu 0, .ptr bg 0, .ptr bq 0], { mem := mm, loc := loc }) := by
    have h2 : evalE (.load (.var vk) .ptr) { mem := mm, loc := loc } = .ok (.ptr bu 0, { mem := mm, loc := loc }) := by simp [mc_eval, hlk]
    have h7 : evalE (.load (.var vg) .ptr) { mem := mm, loc := loc } = .ok (.ptr bg 0, { mem := mm, loc := loc }) := by simp [mc_eval, hlg]
    simp only [mc_eval, h2, h7, hK]
  exact exec_inl_val (st' := { mem := mm, loc := [.ptr bu 0, .ptr bg 0, .ptr bq 0, .int ((firstIdx (entsOf us) g k : Nat) : Int)] }) hargs
    (by simpa using hfe) (by simp [convert, hwf]) ht

/-! ## the array under construction -/

/-- the blocks of the strings of the group list are what the object says, whoever describes it -/
theorem GlMem.fst_unique {m : Mem} {bk bl bl' : Nat} {gl gl' : List (Nat × List UInt8)} (h : GlMem m bk bl gl) (h' : GlMem m bk bl' gl') :
    bl = bl' ∧ gl.map (·.1) = gl'.map (·.1) := by
  rcases h with h | ⟨hg, hb, nb, n1, n2, n3, n4⟩
  · rcases h' with h' | ⟨hg', hb', nb', n1', n2', n3', n4'⟩
    · obtain ⟨kb, k1, k2, k3, k4⟩ := h.kf
      obtain ⟨kb', k1', k2', k3', k4'⟩ := h'.kf
      rw [k1] at k1'; injection k1' with hk; subst hk
      rw [k3] at k3'; injection k3' with h3; injection h3 with hbl _
      rw [k4] at k4'; injection k4' with h4; injection h4 with hlen
      have hlen' : gl.length = gl'.length := by omega
      subst hbl
      obtain ⟨gb, g1, g2, g3, g4⟩ := h.arr
      obtain ⟨gb', g1', g2', g3', g4'⟩ := h'.arr
      rw [g1] at g1'; injection g1' with hg; subst hg
      refine ⟨rfl, List.ext_getElem (by simp [hlen']) (fun i hi hi' => ?_)⟩
      simp only [List.length_map] at hi hi'
      have e1 := (g4 i hi).1
      have e2 := (g4' i hi').1
      rw [e1] at e2; injection e2 with e2; injection e2 with e2
      simp [e2]
    · obtain ⟨kb, k1, k2, k3, k4⟩ := h.kf
      rw [k1] at n1'; injection n1' with hk; subst hk
      rw [k3] at n3'; cases n3'
  · rcases h' with h' | ⟨hg', hb', nb', n1', n2', n3', n4'⟩
    · obtain ⟨kb, k1, k2, k3, k4⟩ := h'.kf
      rw [k1] at n1; injection n1 with hk; subst hk
      rw [k3] at n3; cases n3
    · subst hg hg' hb hb'
      exact ⟨rfl, rfl⟩

theorem GlMem.mem_fst {m : Mem} {bk bl bl' : Nat} {gl gl' : List (Nat × List UInt8)} (h : GlMem m bk bl gl) (h' : GlMem m bk bl' gl')
    {x : Nat × List UInt8} (hx : x ∈ gl') : ∃ y, y ∈ gl ∧ y.1 = x.1 := by
  have hu := (h.fst_unique h').2
  have : x.1 ∈ gl'.map (·.1) := List.mem_map.2 ⟨x, hx, rfl⟩
  rw [← hu] at this
  obtain ⟨y, hy, hyx⟩ := List.mem_map.1 this
  exact ⟨y, hy, hyx⟩

/-- what the loops of the merge keep about the array `fa` they fill and the destination's group list: `start` entries were in the
    array before, the copies of `sel` stand behind them, the destination lists `names`, the caller's other blocks are as in `m0` -/
structure ArrSt (m0 : Mem) (bk bl0 fa : Nat) (gl0len cap start : Nat) (ablk0 : Block) (sel : List Econf.Entry) (names : List (List UInt8))
    (mem : Mem) : Prop where
  agree : ∀ b, b < m0.length → b ∉ [bk, bl0, fa] → mem[b]? = m0[b]?
  grows : m0.length ≤ mem.length
  dest : ∃ bl' gl', GlMem mem bk bl' gl' ∧ (bl' = bl0 ∨ m0.length ≤ bl') ∧ (∀ kb blk, m0[bk]? = some kb → mem[bk]? = some blk → KfKeep kb blk) ∧ (gl' ≠ [] → bk ≠ bl') ∧
      (∀ x, x ∈ gl' → x.1 ≠ bk ∧ x.1 ≠ bl') ∧ gl'.length ≤ gl0len + sel.length ∧ gl'.map (·.2) = names ∧
      ∀ j (h : j < sel.length), EntMem mem fa (7 * (start + j)) (Econf.cpyEntry (sel[j])) [bk, bl']
  arr : ∃ ablk, mem[fa]? = some ablk ∧ ablk.live = true ∧ ablk.writable = true ∧ ablk.cells = [] ∧ ablk.slots.length = 7 * cap ∧
      ∀ k, k < 7 * start → ablk.slots[k]? = ablk0.slots[k]?

theorem ArrSt.init {m : Mem} {bk bl0 fa cap : Nat} {gl0 : List (Nat × List UInt8)} {ablk0 : Block} (start : Nat)
    (hG : GlMem m bk bl0 gl0) (hkw : ∀ blk, m[bk]? = some blk → blk.writable = true) (hne : gl0 ≠ [] → bk ≠ bl0) (hd : ∀ x, x ∈ gl0 → x.1 ≠ bk ∧ x.1 ≠ bl0)
    (ha1 : m[fa]? = some ablk0) (ha2 : ablk0.live = true) (ha3 : ablk0.writable = true) (ha4 : ablk0.cells = []) (ha5 : ablk0.slots.length = 7 * cap) :
    ArrSt m bk bl0 fa gl0.length cap start ablk0 [] (gl0.map (·.2)) m :=
  ⟨fun _ _ _ => rfl, Nat.le_refl _, ⟨bl0, gl0, hG, Or.inl rfl, KfKeep.same hkw rfl, hne, hd, Nat.le_refl _, rfl, fun j hj => absurd hj (Nat.not_lt_zero j)⟩,
    ⟨ablk0, ha1, ha2, ha3, ha4, ha5, fun _ _ => rfl⟩⟩

/-- nothing of it looks at blocks added behind the memory -/
theorem ArrSt.frame {m0 : Mem} {bk bl0 fa gl0len cap start : Nat} {ablk0 : Block} {sel : List Econf.Entry} {names : List (List UInt8)} {mem : Mem}
    (h : ArrSt m0 bk bl0 fa gl0len cap start ablk0 sel names mem) (mem' : Mem)
    (hm : ∀ b, b < mem.length → mem'[b]? = mem[b]?) (hlen : mem.length ≤ mem'.length) (hfa : fa < m0.length) (hbk : bk < m0.length) :
    ArrSt m0 bk bl0 fa gl0len cap start ablk0 sel names mem' := by
  obtain ⟨bl', gl', d1, d2, d3, d4, d5, d6, d7, d8⟩ := h.dest
  obtain ⟨ablk, a1, a2, a3, a4, a5, a6⟩ := h.arr
  have hg := h.grows
  exact ⟨fun b hb hav => by rw [hm b (by omega)]; exact h.agree b hb hav, by omega,
    ⟨bl', gl', d1.grow hm, d2, fun kb blk hk hb => d3 kb blk hk (by rw [← hm bk (by omega)]; exact hb), d4, d5, d6, d7,
      fun j hj => (d8 j hj).mono (fun b hb _ => hm b hb)⟩,
    ⟨ablk, by rw [hm fa (by omega)]; exact a1, a2, a3, a4, a5, a6⟩⟩

/-- a block of the old memory other than `x` is not `y`, when `y` is `x` or was made later -/
theorem ne_of_same_or_new {n b x y : Nat} (h : y = x ∨ n ≤ y) (hb : b < n) (hne : b ≠ x) : b ≠ y := by
  rcases h with e | e
  · rw [e]; exact hne
  · exact Nat.ne_of_lt (Nat.lt_of_lt_of_le hb e)

theorem avoid_moved {L bk bl bl' fa b : Nat} (h : bl' = bl ∨ L ≤ bl') (hb : b < L) (hav : b ∉ [bk, bl, fa]) : b ∉ [bk, bl', fa] := by
  simp only [List.mem_cons, List.not_mem_nil, or_false, not_or] at hav ⊢
  exact ⟨hav.1, ne_of_same_or_new h hb hav.2.1, hav.2.2⟩

theorem word_lt {a j n k : Nat} (hj : j < n) (hk : k < 7) : 7 * (a + j) + k < 7 * (a + n) := by omega

theorem fits_of_le {a b c f : Nat} (h : a ≤ b + c) (hs : (b : Int) + c + 2 < 2147483648) (hf : b + c + 1 < f) :
    (a : Int) + 2 < 2147483648 ∧ a + 1 < f := by omega

/-- `(*fe)[idx] = cpy_file_entry(dest_kf, src)`: the copy is made into the local `t`, then its seven words go to element `idx` of the
    array behind the cell in variable 1 (the destination is in variable 0) -/
abbrev feAppend (t : Nat) (srcE idxE : Expr) : Stmt :=
  .seq (.inl (some (.var t)) .ptr (.cons (.load (.var 0) .ptr) (.cons srcE .nil)) 3 LeafFns.cpy_file_entry.body)
    (.expr (.call "copy_words" (.cons (.sidx (.load (.slot (.load (.var 1) .ptr) 0) .ptr) idxE 7) (.cons (.load (.var t) .ptr) (.cons (.lit 7 .u64) .nil)))))

/-- the append step in any frame: `(*fe)[start + |sel|] = cpy_file_entry(dest_kf, src)` puts the copy of the source entry `e` behind the
    others; `cell` is the caller's cell that points to the array, apart from the destination -/
theorem ArrSt.append {m0 : Mem} {bk bl0 fa cell gl0len cap start : Nat} {ablk0 : Block} {sel : List Econf.Entry} {names : List (List UInt8)} {M : Mem}
    (h : ArrSt m0 bk bl0 fa gl0len cap start ablk0 sel names M)
    (hcell : ∃ cblk, m0[cell]? = some cblk ∧ cblk.live = true ∧ cblk.slots[0]? = some (.ptr fa 0)) (hcav : cell ∉ [bk, bl0, fa])
    (hfa : fa < m0.length) (hbk : bk < m0.length) (hfane : fa ≠ bk ∧ fa ≠ bl0)
    (bs os : Nat) (e : Econf.Entry) (hE0 : EntMem m0 bs os e [bk, bl0, fa])
    (loc loc2 : List Val) (srcE idxE : Expr) (t : Nat)
    (hroom : start + sel.length < cap) (hsmall : (gl0len : Int) + sel.length + 2 < 2147483648) (hline : (e.line : Int) < 18446744073709551616)
    (fuel : Nat) (hf : gl0len + sel.length + 1 < fuel)
    (hl0 : loc[0]? = some (.ptr bk 0)) (hl1 : loc[1]? = some (.ptr cell 0)) (ht : t < loc.length) (ht1 : t ≠ 1)
    (hsrc : evalE srcE { mem := M, loc := loc } = .ok (.ptr bs (os : Int), { mem := M, loc := loc }))
    (hidx : ∀ mm, evalE idxE { mem := mm, loc := loc.set t (.ptr M.length 0) } = .ok (.int ((start + sel.length : Nat) : Int), { mem := mm, loc := loc2 }))
    (hl2t : loc2[t]? = some (.ptr M.length 0)) :
    ∃ m', exec fuel (feAppend t srcE idxE) { mem := M, loc := loc } = .normal { mem := m', loc := loc2 } ∧
      ArrSt m0 bk bl0 fa gl0len cap start ablk0 (sel ++ [e]) (Econf.addGroup names e.group) m' ∧ M.length ≤ m'.length ∧
      -- the value of the new element has a block of its own, made in this step
      (∀ bv, m'.loadSlot fa (((7 * (start + sel.length) : Nat) : Int) + 2) = .ok (.ptr bv 0) → M.length < bv ∧
        (∀ k : Nat, k < 5 → k ≠ 2 → m'.loadSlot fa (((7 * (start + sel.length) : Nat) : Int) + (k : Int)) ≠ .ok (.ptr bv 0)) ∧
        ∀ bl3 gl3, GlMem m' bk bl3 gl3 → bl3 ≠ bv ∧ ∀ x, x ∈ gl3 → x.1 ≠ bv) ∧
      (∀ b, b < M.length → b ≠ bk → b ∉ [bk, bl0, fa] → (∀ bl3 gl3, GlMem M bk bl3 gl3 → b ≠ bl3) → m'[b]? = M[b]?) ∧
      (∀ ablkM ablk', M[fa]? = some ablkM → m'[fa]? = some ablk' → ∀ k, k < 7 * (start + sel.length) → ablk'.slots[k]? = ablkM.slots[k]?) := by
  obtain ⟨bl', gl', d1, d2, d3, d4, d5, d6, d7, d8⟩ := h.dest
  obtain ⟨ablk, a1, a2, a3, a4, a5, a6⟩ := h.arr
  obtain ⟨cblk, c1, c2, c3⟩ := hcell
  have hfit := fits_of_le d6 hsmall hf
  have hgrow : m0.length ≤ M.length := h.grows
  have hclt : cell < m0.length := (List.getElem?_eq_some_iff.1 c1).1
  have hcM : M[cell]? = some cblk := by rw [h.agree cell hclt hcav]; exact c1
  simp only [List.mem_cons, List.not_mem_nil, or_false, not_or] at hcav
  have hE : EntMem M bs os e [bk, bl'] := hE0.transfer h.agree (fun b hb hav => by
    simp only [List.mem_cons, List.not_mem_nil, or_false, not_or] at hav ⊢
    exact ⟨hav.1, ne_of_same_or_new d2 hb hav.2.1⟩)
  obtain ⟨kb0, hkb0⟩ : ∃ kb0, m0[bk]? = some kb0 := ⟨_, List.getElem?_eq_getElem hbk⟩
  obtain ⟨kbM, hkbM, _⟩ := d1.obj
  obtain ⟨m', bl'', gl'', hex, hEnt, hG', hnames, hfr, ⟨ablk', b1, b2, b3, b4, b5, b6⟩, hlen', hblor, hkw', hne', hd', hgll, hfreshv⟩ :=
    C_fe_append M bk bl' cell fa bs os gl' e loc loc2 srcE idxE t (start + sel.length) cap
      d1 hE (fun blk hb => (d3 kb0 blk hkb0 hb).1) d4 d5 hfit.1 hline fuel hfit.2 hl0 hl1 ht ht1 hsrc hidx hl2t
      cblk hcM c2 c3 ⟨hcav.1, ne_of_same_or_new d2 hclt hcav.2.1⟩ ablk a1 a2 a3 a5 a4 ⟨hfane.1, ne_of_same_or_new d2 hfa hfane.2⟩ hroom
  have hfaM : fa < M.length := Nat.lt_of_lt_of_le hfa hgrow
  refine ⟨m', hex, ⟨fun b hb hav => ?_, Nat.le_trans hgrow hlen', ?_, ⟨ablk', b1, b2, b3, b4, b5, fun k hk => ?_⟩⟩, hlen',
    fun bv hbv => ?_, fun b hb h1 hav hnb => ?_, fun ablkM ablk2 hM2 hm2 k hk => ?_⟩
  rotate_left 3
  · obtain ⟨f1, f2, f4, f3⟩ := hfreshv bv hbv
    refine ⟨f1, f2, fun bl3 gl3 hG3 => ⟨?_, fun x hx => ?_⟩⟩
    · rw [← (hG'.fst_unique hG3).1]; exact f4
    · obtain ⟨y, hy, hyx⟩ := hG'.mem_fst hG3 hx
      rw [← hyx]; exact f3 y hy
  · simp only [List.mem_cons, List.not_mem_nil, or_false, not_or] at hav
    exact hfr b hb h1 (hnb bl' gl' d1) hav.2.2
  · rw [a1] at hM2; cases hM2
    rw [b1] at hm2; cases hm2
    exact b6 k (Or.inl hk)
  · simp only [List.mem_cons, List.not_mem_nil, or_false, not_or] at hav
    rw [hfr b (Nat.lt_of_lt_of_le hb hgrow) hav.1 (ne_of_same_or_new d2 hb hav.2.1) hav.2.2]
    exact h.agree b hb (by simp [hav])
  · refine ⟨bl'', gl'', hG', ?_, fun kb blk hk hb => (d3 kb kbM hk hkbM).trans (hkw' kbM blk hkbM hb), hne', hd', ?_, by rw [hnames, d7], fun j hj => ?_⟩
    · rcases hblor with e | e
      · rw [e]; exact d2
      · exact Or.inr (Nat.le_trans hgrow e)
    · rw [List.length_append]
      exact Nat.le_trans hgll (Nat.add_le_add_right d6 1)
    · by_cases hja : j < sel.length
      · -- an earlier element: its words and strings are untouched
        rw [List.getElem_append_left hja]
        exact (d8 j hja).keep_in_array a1 b1 b2 (fun k hk => b6 (7 * (start + j) + k) (Or.inl (word_lt hja hk)))
          (fun b hb hav hne => by
            simp only [List.mem_cons, List.not_mem_nil, or_false, not_or] at hav
            exact hfr b hb hav.1 hav.2 hne) (no_cstr a1 a4)
          (fun b hb hav => by
            simp only [List.mem_cons, List.not_mem_nil, or_false, not_or] at hav ⊢
            exact ⟨hav.1, ne_of_same_or_new hblor hb hav.2⟩)
          (by simp only [List.mem_cons, List.not_mem_nil, or_false, not_or]
              exact ⟨hfane.1, ne_of_same_or_new hblor hfaM (ne_of_same_or_new d2 hfa hfane.2)⟩)
      · have hje : j = sel.length := Nat.le_antisymm (Nat.le_of_lt_succ (by simpa using hj)) (Nat.le_of_not_lt hja)
        subst hje
        simpa using hEnt
  · rw [b6 k (Or.inl (Nat.lt_of_lt_of_le hk (Nat.mul_le_mul_left 7 (Nat.le_add_right _ _))))]
    exact a6 k hk

/-! ## which entries a loop copies -/

/-- the first definitions of a list, by position: entry `j` stays when none of the entries before it has its group and key -/
theorem firstDefsAux_eq (seen rest : List Econf.Entry) :
    Econf.firstDefsAux seen rest = (List.range rest.length).filterMap (fun j =>
      match rest[j]? with
      | some e => if Econf.defines (seen ++ rest.take j) e.group e.key then none else some e
      | none => none) := by
  induction rest generalizing seen with
  | nil => simp [Econf.firstDefsAux]
  | cons e r ih =>
    rw [List.length_cons, List.range_succ_eq_map, List.filterMap_cons, List.filterMap_map]
    have htail : (List.range r.length).filterMap ((fun j =>
          match (e :: r)[j]? with
          | some x => if Econf.defines (seen ++ (e :: r).take j) x.group x.key then none else some x
          | none => none) ∘ Nat.succ) = Econf.firstDefsAux (seen ++ [e]) r := by
      rw [ih (seen ++ [e])]
      congr 1
      funext j
      simp [List.append_assoc]
      cases r[j]? <;> rfl
    rw [htail]
    rw [show Econf.firstDefsAux seen (e :: r) = (if Econf.defines seen e.group e.key then Econf.firstDefsAux (seen ++ [e]) r
      else e :: Econf.firstDefsAux (seen ++ [e]) r) from rfl]
    by_cases hd : Econf.defines seen e.group e.key = true
    · simp [hd]
    · simp [hd]

theorem filterMap_congr' {α β : Type} {f g : α → Option β} {l : List α} (h : ∀ x, x ∈ l → f x = g x) : l.filterMap f = l.filterMap g := by
  induction l with
  | nil => rfl
  | cons a l ih =>
    have ha := h a (by simp)
    have ih' := ih (fun x hx => h x (by simp [hx]))
    simp only [List.filterMap_cons, ha, ih']

theorem defines_take_iff (es : List Econf.Entry) (j : Nat) (g k : List UInt8) :
    Econf.defines (es.take j) g k = true ↔ ∃ i, ∃ h : i < es.length, i < j ∧ (es[i]).group = g ∧ (es[i]).key = k := by
  simp only [Econf.defines, List.any_eq_true, Bool.and_eq_true, beq_iff_eq]
  constructor
  · rintro ⟨x, hx, h1, h2⟩
    obtain ⟨i, hi, rfl⟩ := List.getElem_of_mem hx
    rw [List.length_take] at hi
    refine ⟨i, by omega, by omega, ?_, ?_⟩
    · simpa using h1
    · simpa using h2
  · rintro ⟨i, hi, hij, h1, h2⟩
    refine ⟨es[i], ?_, h1, h2⟩
    rw [List.mem_take_iff_getElem]
    exact ⟨i, by omega, rfl⟩

/-- `first_definition` in terms of the model: entry `j` is the first with its group and key iff no earlier entry defines them -/
theorem firstIdx_eq_iff (es : List Econf.Entry) (j : Nat) (hj : j < es.length) :
    firstIdx (entsOf es) (es[j]).group (es[j]).key = j ↔ Econf.defines (es.take j) (es[j]).group (es[j]).key = false := by
  have hl : (entsOf es).length = es.length := by simp [entsOf]
  have hget : ∀ i (h : i < es.length), (entsOf es)[i]'(by rw [hl]; exact h) = ((es[i]).group, (es[i]).key) := by
    intro i h; simp [entsOf]
  constructor
  · intro hf
    cases hd : Econf.defines (es.take j) (es[j]).group (es[j]).key with
    | false => rfl
    | true =>
      obtain ⟨i, hi, hij, h1, h2⟩ := (defines_take_iff es j _ _).1 hd
      have := firstIdx_before (entsOf es) (es[j]).group (es[j]).key i (by rw [hf]; exact hij)
      rw [hget i hi] at this
      exact absurd ⟨h1, h2⟩ this
  · intro hd
    have hle := firstIdx_le (entsOf es) (es[j]).group (es[j]).key
    by_cases hlt : firstIdx (entsOf es) (es[j]).group (es[j]).key < j
    · have hat := firstIdx_at (entsOf es) (es[j]).group (es[j]).key (by omega)
      rw [hget _ (by omega)] at hat
      have : Econf.defines (es.take j) (es[j]).group (es[j]).key = true :=
        (defines_take_iff es j _ _).2 ⟨_, by omega, hlt, hat.1, hat.2⟩
      rw [hd] at this; exact absurd this (by simp)
    · by_cases hgt : j < firstIdx (entsOf es) (es[j]).group (es[j]).key
      · have := firstIdx_before (entsOf es) (es[j]).group (es[j]).key j hgt
        rw [hget j hj] at this
        exact absurd ⟨rfl, rfl⟩ this
      · omega

/-- the entries among the first `i` that a loop of the merge copies: the first definitions that satisfy `p` -/
def selBy (p : Econf.Entry → Bool) (es : List Econf.Entry) (i : Nat) : List Econf.Entry :=
  ((List.range i).filter (fun j => match es[j]? with
    | some e => p e && (firstIdx (entsOf es) e.group e.key == j)
    | none => false)).filterMap (fun j => es[j]?)

theorem selBy_succ (p : Econf.Entry → Bool) (es : List Econf.Entry) (i : Nat) (hi : i < es.length) :
    selBy p es (i + 1) = selBy p es i ++ (if p es[i] && (firstIdx (entsOf es) (es[i]).group (es[i]).key == i) then [es[i]] else []) := by
  simp only [selBy, List.range_succ, List.filter_append, List.filterMap_append]
  by_cases h : (p es[i] && (firstIdx (entsOf es) (es[i]).group (es[i]).key == i)) = true
  · simp [h, hi]
  · simp [h, hi]

theorem selBy_length_le (p : Econf.Entry → Bool) (es : List Econf.Entry) (i : Nat) : (selBy p es i).length ≤ i := by
  unfold selBy
  calc _ ≤ (List.filter _ (List.range i)).length := List.length_filterMap_le _ _
    _ ≤ (List.range i).length := List.length_filter_le _ _
    _ = i := List.length_range

theorem selBy_length_mono (p : Econf.Entry → Bool) (es : List Econf.Entry) {i n : Nat} (h : i ≤ n) : (selBy p es i).length ≤ (selBy p es n).length := by
  obtain ⟨d, rfl⟩ : ∃ d, n = i + d := ⟨n - i, by omega⟩
  unfold selBy
  rw [List.range_add, List.filter_append, List.filterMap_append, List.length_append]
  omega

theorem selBy_model (p : Econf.Entry → Bool) (es : List Econf.Entry) :
    selBy p es es.length = (Econf.firstDefs es).filter p := by
  unfold selBy Econf.firstDefs
  rw [firstDefsAux_eq, List.filterMap_filter, List.filter_filterMap]
  apply filterMap_congr'
  intro j hj
  have hj' : j < es.length := by simpa using hj
  have hiff := firstIdx_eq_iff es j hj'
  simp only [List.getElem?_eq_getElem hj', List.nil_append]
  by_cases hg : p es[j] = true
  · by_cases hd : Econf.defines (es.take j) (es[j]).group (es[j]).key = true
    · have : ¬ firstIdx (entsOf es) (es[j]).group (es[j]).key = j := fun h => by rw [hiff.1 h] at hd; exact absurd hd (by simp)
      simp [hg, hd, this]
    · have hd' : Econf.defines (es.take j) (es[j]).group (es[j]).key = false := by simpa using hd
      simp [hg, hd', hiff.2 hd', Option.filter]
  · simp [hg]
    split <;> simp [hg, Option.filter]

/-! ## `insert_nogroup` -/

/-- is entry `j` of the override copied by `insert_nogroup`: group-less, and the first definition of its key -/
def isSel (es : List Econf.Entry) (j : Nat) : Bool :=
  match es[j]? with
  | some e => e.group == Econf.NONE && (firstIdx (entsOf es) e.group e.key == j)
  | none => false

/-- the entries among the first `i` that are copied, in order -/
def selUpTo (es : List Econf.Entry) (i : Nat) : List Econf.Entry := ((List.range i).filter (isSel es)).filterMap (fun j => es[j]?)

theorem selUpTo_eq (es : List Econf.Entry) (i : Nat) : selUpTo es i = selBy (fun e => e.group == Econf.NONE) es i := rfl

theorem isSel_iff (es : List Econf.Entry) (i : Nat) (hi : i < es.length) :
    isSel es i = true ↔ (es[i]).group = Econf.NONE ∧ firstIdx (entsOf es) (es[i]).group (es[i]).key = i := by
  simp [isSel, hi]

theorem selUpTo_succ (es : List Econf.Entry) (i : Nat) (hi : i < es.length) :
    selUpTo es (i + 1) = selUpTo es i ++ (if isSel es i then [es[i]] else []) := by
  rw [selUpTo_eq, selUpTo_eq, selBy_succ _ es i hi]
  simp [isSel, hi]

theorem selUpTo_length_le (es : List Econf.Entry) (i : Nat) : (selUpTo es i).length ≤ i := selBy_length_le _ es i

/-- the entries `insert_nogroup` selects are the model's: the group-less first definitions, in order -/
theorem selUpTo_model (es : List Econf.Entry) :
    selUpTo es es.length = (Econf.firstDefs es).filter (fun e => e.group == Econf.NONE) := selBy_model _ es

def ngSrc : Expr := .sidx (.load (.slot (.load (.var 3) .ptr) 0) .ptr) (.load (.var 5) .u64) 7
def ngCond : Expr := .un .lnot (.call "strcmp" (.cons (.load (.slot ngSrc 0) .ptr) (.cons (.strlit [95, 110, 111, 110, 101, 95]) .nil))) .i32
def ngAppend : Stmt := .seq (.inl (some (.var 6)) .ptr (.cons (.load (.var 0) .ptr) (.cons ngSrc .nil)) 3 LeafFns.cpy_file_entry.body)
  (.expr (.call "copy_words" (.cons (.sidx (.load (.slot (.load (.var 1) .ptr) 0) .ptr) (.incdec (.var 4) true true .u64) 7)
    (.cons (.load (.var 6) .ptr) (.cons (.lit 7 .u64) .nil)))))
def ngInner : Stmt := .seq (.inl (some (.var 7)) .bool (.cons (.load (.var 3) .ptr) (.cons (.load (.var 5) .u64) .nil)) 3 LeafFns.first_definition.body)
  (.ite (.cast .i32 (.load (.var 7) .bool)) ngAppend .skip)
def ngBody : Stmt := .ite ngCond ngInner .skip
def ngTest : Expr := .bin .lt (.load (.var 5) .u64) (.load (.slot (.load (.var 3) .ptr) 1) .u64) .i32
def ngLoop : Stmt := .for (some ngTest) (some (.incdec (.var 5) true true .u64)) ngBody

theorem insert_nogroup_shape : LeafFns.insert_nogroup.body =
    .seq (.expr (.assign (.var 4) (.cast .u64 (.lit 0 .i32)) .u64))
      (.seq (.ite (.load (.var 2) .ptr) (.ite (.load (.var 3) .ptr)
          (.seq (.inl (some (.var 8)) .bool (.cons (.load (.var 2) .ptr) (.cons (.strlit [95, 110, 111, 110, 101, 95]) .nil)) 3 LeafFns.has_group.body)
            (.ite (.un .lnot (.load (.var 8) .bool) .i32) (.seq (.expr (.assign (.var 5) (.cast .u64 (.lit 0 .i32)) .u64)) ngLoop) .skip))
          .skip) .skip)
        (.ret (some (.load (.var 4) .u64)))) := rfl

/-- `insert_nogroup` without a base or without an override: nothing is read or written, 0 is returned -/
theorem insert_nogroup_null (fuel : Nat) (m : Mem) (a0 a1 a2 a3 : Val) (h : a2 = .null ∨ (∃ b, a2 = .ptr b 0) ∧ a3 = .null) :
    exec fuel LeafFns.insert_nogroup.body { mem := m, loc := [a0, a1, a2, a3, .undef, .undef, .undef, .undef, .undef] } =
      .ret (.int 0) { mem := m, loc := [a0, a1, a2, a3, .int 0, .undef, .undef, .undef, .undef] } := by
  have w0 : wrapTo .u64 0 = 0 := wrapTo_u64_small 0 (by decide) (by decide)
  rw [insert_nogroup_shape]
  rcases h with rfl | ⟨⟨b, rfl⟩, rfl⟩ <;>
    simp [mc_exec, mc_eval, testOf, convert, w0, truth]

/-- the state of the loop of `insert_nogroup` before round `i`, when `sel` are the entries copied so far -/
structure NgInv (m0 : Mem) (bk bl0 fa cell bu be : Nat) (names0 : List (List UInt8)) (gl0len cap : Nat)
    (sel : List Econf.Entry) (i : Nat) (st : St) : Prop where
  loc : ∃ v6 v7, st.loc = [.ptr bk 0, .ptr cell 0, .ptr bu 0, .ptr be 0, .int (sel.length : Int), .int (i : Int), v6, v7, .int 0]
  agree : ∀ b, b < m0.length → b ∉ [bk, bl0, fa] → st.mem[b]? = m0[b]?
  grows : m0.length ≤ st.mem.length
  dest : ∃ bl' gl', GlMem st.mem bk bl' gl' ∧ (bl' = bl0 ∨ m0.length ≤ bl') ∧ (∀ kb blk, m0[bk]? = some kb → st.mem[bk]? = some blk → KfKeep kb blk) ∧ (gl' ≠ [] → bk ≠ bl') ∧
      (∀ x, x ∈ gl' → x.1 ≠ bk ∧ x.1 ≠ bl') ∧ gl'.length ≤ gl0len + sel.length ∧
      gl'.map (·.2) = (if sel.length = 0 then names0 else Econf.addGroup names0 Econf.NONE) ∧
      ∀ j (h : j < sel.length), EntMem st.mem fa (7 * j) (Econf.cpyEntry (sel[j])) [bk, bl']
  arr : ∃ ablk, st.mem[fa]? = some ablk ∧ ablk.live = true ∧ ablk.writable = true ∧ ablk.cells = [] ∧ ablk.slots.length = 7 * cap

abbrev ngLoc (bk cell bu be cnt i : Nat) (v6 v7 : Val) : List Val :=
  [.ptr bk 0, .ptr cell 0, .ptr bu 0, .ptr be 0, .int (cnt : Int), .int (i : Int), v6, v7, .int 0]

/-- the memory part of the invariant is an `ArrSt` for an array that was empty (so `ablk0` is anything) -/
theorem NgInv.toArr {m0 : Mem} {bk bl0 fa cell bu be : Nat} {names0 : List (List UInt8)} {gl0len cap i : Nat} {sel : List Econf.Entry} {st : St}
    (h : NgInv m0 bk bl0 fa cell bu be names0 gl0len cap sel i st) (ablk0 : Block) :
    ArrSt m0 bk bl0 fa gl0len cap 0 ablk0 sel (if sel.length = 0 then names0 else Econf.addGroup names0 Econf.NONE) st.mem := by
  obtain ⟨bl', gl', d1, d2, d3, d4, d5, d6, d7, d8⟩ := h.dest
  obtain ⟨ablk, a1, a2, a3, a4, a5⟩ := h.arr
  exact ⟨h.agree, h.grows, ⟨bl', gl', d1, d2, d3, d4, d5, d6, d7, fun j hj => by rw [Nat.zero_add]; exact d8 j hj⟩,
    ⟨ablk, a1, a2, a3, a4, a5, fun k hk => absurd hk (by omega)⟩⟩

theorem NgInv.ofArr {m0 : Mem} {bk bl0 fa cell bu be : Nat} {names0 : List (List UInt8)} {gl0len cap i : Nat} {sel : List Econf.Entry} {ablk0 : Block}
    {mem : Mem} (v6 v7 : Val)
    (h : ArrSt m0 bk bl0 fa gl0len cap 0 ablk0 sel (if sel.length = 0 then names0 else Econf.addGroup names0 Econf.NONE) mem) :
    NgInv m0 bk bl0 fa cell bu be names0 gl0len cap sel i { mem := mem, loc := ngLoc bk cell bu be sel.length i v6 v7 } := by
  obtain ⟨bl', gl', d1, d2, d3, d4, d5, d6, d7, d8⟩ := h.dest
  obtain ⟨ablk, a1, a2, a3, a4, a5, _⟩ := h.arr
  exact ⟨⟨v6, v7, rfl⟩, h.agree, h.grows, ⟨bl', gl', d1, d2, d3, d4, d5, d6, d7, fun j hj => by have := d8 j hj; rwa [Nat.zero_add] at this⟩,
    ⟨ablk, a1, a2, a3, a4, a5⟩⟩

/-- what the caller of `insert_nogroup` provides: the override `es` readable and apart from the destination, the cell holding the
    new array, enough room in that array, sizes that fit the C types -/
structure NgCtx (m0 : Mem) (bk bl0 fa cell be bea : Nat) (es : List Econf.Entry) (gl0len cap : Nat) : Prop where
  src : SrcMem m0 be bea es [bk, bl0, fa]
  cellb : ∃ cblk, m0[cell]? = some cblk ∧ cblk.live = true ∧ cblk.slots[0]? = some (.ptr fa 0)
  cellav : cell ∉ [bk, bl0, fa]
  fa_lt : fa < m0.length
  bk_lt : bk < m0.length
  bl_lt : bl0 < m0.length
  fa_ne : fa ≠ bk ∧ fa ≠ bl0
  room : es.length ≤ cap
  small : (gl0len : Int) + es.length + 2 < 2147483648
  lines : ∀ e ∈ es, (e.line : Int) < 18446744073709551616

/-- the body of the loop on entry `i`: a group-less first definition is appended, any other entry is passed over; the literal of the
    comparison stays behind the memory -/
theorem ng_body (fuel : Nat) (mm : Mem) (bk cell bu be bea : Nat) (es : List Econf.Entry) (av : List Nat) (cnt i : Nat) (v6 v7 : Val)
    (hS : SrcMem mm be bea es av) (hi : i < es.length) (hsmall : (es.length : Int) + 1 < 18446744073709551616) (hf : es.length < fuel) :
    ∃ v7', exec fuel ngBody { mem := mm, loc := ngLoc bk cell bu be cnt i v6 v7 } =
      if isSel es i then exec fuel ngAppend { mem := mm ++ [noneLit], loc := ngLoc bk cell bu be cnt i v6 (.int 1) }
      else .normal { mem := mm ++ [noneLit], loc := ngLoc bk cell bu be cnt i v6 v7' } := by
  have hcond : testOf (some ngCond) { mem := mm, loc := ngLoc bk cell bu be cnt i v6 v7 } = _ :=
    ef_none 3 5 mm _ be bea es av i hS hi rfl rfl
  have hsel := isSel_iff es i hi
  unfold ngBody
  by_cases hg : (es[i]).group = Econf.NONE
  · have hSM : SrcMem (mm ++ [noneLit]) be bea es av := hS.mono (fun b hb _ => append_get hb)
    have hfd := ef_first_definition 3 5 7 fuel (mm ++ [noneLit]) (ngLoc bk cell bu be cnt i v6 v7) be bea es av i hSM hi rfl rfl (by simp) hsmall hf
    rw [exec_ite_true (by simpa [hg] using hcond)]
    unfold ngInner
    by_cases hfirst : firstIdx (entsOf es) (es[i]).group (es[i]).key = i
    · refine ⟨v7, ?_⟩
      simp only [hfirst, if_true] at hfd
      rw [exec_seq_normal hfd, exec_ite_true (test_flag 7 _ _ 1 rfl (Or.inr rfl)), if_pos (hsel.2 ⟨hg, hfirst⟩)]
      rfl
    · refine ⟨.int 0, ?_⟩
      simp only [hfirst, if_false] at hfd
      rw [exec_seq_normal hfd, exec_ite_false (test_flag 7 _ _ 0 rfl (Or.inl rfl)), if_neg (fun h => hfirst (hsel.1 h).2)]
      simp [mc_exec]
  · refine ⟨v7, ?_⟩
    rw [exec_ite_false (by simpa [hg] using hcond), if_neg (fun h => hg (hsel.1 h).1)]
    simp [mc_exec]

/-- the names the destination lists once a group-less entry has been copied -/
theorem ng_names (names0 : List (List UInt8)) (sel : List Econf.Entry) (e : Econf.Entry) :
    Econf.addGroup (if sel.length = 0 then names0 else Econf.addGroup names0 Econf.NONE) Econf.NONE =
      if (sel ++ [e]).length = 0 then names0 else Econf.addGroup names0 Econf.NONE := by
  rw [if_neg (c := (sel ++ [e]).length = 0) (by rw [List.length_append]; exact Nat.succ_ne_zero _)]
  split
  · rfl
  · exact addGroup_idem _ _

/-- one round of `for (i = 0; i < ef->length; i++)`: entry `i` is appended if it is a group-less first definition -/
theorem ng_round {m0 : Mem} {bk bl0 fa cell bu be bea : Nat} {es : List Econf.Entry} {names0 : List (List UInt8)} {gl0len cap : Nat}
    (C : NgCtx m0 bk bl0 fa cell be bea es gl0len cap) (fuel : Nat) (hf : gl0len + es.length + 2 < fuel)
    (i : Nat) (hi : i < es.length) (st : St) (h : NgInv m0 bk bl0 fa cell bu be names0 gl0len cap (selUpTo es i) i st) :
    ∃ T Q st', testOf (some ngTest) st = .ok (true, T) ∧ (exec fuel ngBody T = .normal Q ∨ exec fuel ngBody T = .cont Q) ∧
      stepOf (some (.incdec (.var 5) true true .u64)) Q = .ok st' ∧
      NgInv m0 bk bl0 fa cell bu be names0 gl0len cap (selUpTo es (i + 1)) (i + 1) st' := by
  obtain ⟨v6, v7, hloc⟩ := h.loc
  obtain ⟨mem, loc⟩ := st
  simp only at hloc; subst hloc
  have hcnt : (selUpTo es i).length ≤ i := selUpTo_length_le es i
  -- the sizes in play fit `size_t` and `int`, there is room for one more entry, and the fuel suffices for the calls
  obtain ⟨he64, hi64, hc64, hg32, hroom, hfe, hfg⟩ : (es.length : Int) + 1 < 18446744073709551616 ∧ (i : Int) + 1 < 18446744073709551616 ∧
      ((selUpTo es i).length : Int) + 1 < 18446744073709551616 ∧ (gl0len : Int) + (selUpTo es i).length + 2 < 2147483648 ∧
      0 + (selUpTo es i).length < cap ∧ es.length < fuel ∧ gl0len + (selUpTo es i).length + 1 < fuel := by
    have := C.small
    have := C.room
    omega
  have hS : SrcMem mem be bea es [bk, bl0, fa] := C.src.mono h.agree
  have htest := ef_test 3 5 mem (ngLoc bk cell bu be (selUpTo es i).length i v6 v7) be bea es _ i hS rfl rfl
  simp only [hi, decide_true] at htest
  obtain ⟨v7', hbody⟩ := ng_body fuel mem bk cell bu be bea es _ (selUpTo es i).length i v6 v7 hS hi he64 hfe
  have hstep : ∀ mm cnt v6 v7, stepOf (some (.incdec (.var 5) true true .u64)) { mem := mm, loc := ngLoc bk cell bu be cnt i v6 v7 } =
      .ok { mem := mm, loc := ngLoc bk cell bu be cnt (i + 1) v6 v7 } := fun mm cnt v6 v7 =>
    stepOf_some _ _ _ _ (incdec_u64_eval 5 mm _ i rfl hi64)
  obtain ⟨ablk0, _⟩ := h.arr
  have hA := (h.toArr ablk0).frame (mem ++ [noneLit]) (fun b hb => append_get hb) (by simp) C.fa_lt C.bk_lt
  rw [selUpTo_succ es i hi]
  by_cases hsel : isSel es i = true
  · have hSM : SrcMem (mem ++ [noneLit]) be bea es [bk, bl0, fa] := hS.mono (fun b hb _ => append_get hb)
    obtain ⟨m', hex, hA', _⟩ := hA.append C.cellb C.cellav C.fa_lt C.bk_lt C.fa_ne bea (7 * i) es[i] (C.src.ents i hi)
      (ngLoc bk cell bu be (selUpTo es i).length i v6 (.int 1)) (ngLoc bk cell bu be ((selUpTo es i).length + 1) i (.ptr (mem ++ [noneLit]).length 0) (.int 1))
      ngSrc (.incdec (.var 4) true true .u64) 6 hroom hg32 (C.lines _ (List.getElem_mem hi)) fuel hfg rfl rfl (by simp) (by decide)
      (ef_src 3 5 _ _ be bea es _ i hSM (Nat.le_of_lt hi) rfl rfl)
      (fun mm => by rw [Nat.zero_add]; exact incdec_u64_eval 4 mm _ (selUpTo es i).length rfl hc64) rfl
    rw [if_pos hsel] at hbody ⊢
    rw [((isSel_iff es i hi).1 hsel).1, ng_names names0 _ es[i]] at hA'
    refine ⟨_, _, _, htest, Or.inl (hbody.trans hex), hstep _ _ _ _, ?_⟩
    have := NgInv.ofArr (cell := cell) (bu := bu) (be := be) (i := i + 1) (.ptr (mem ++ [noneLit]).length 0) (.int 1) hA'
    rwa [List.length_append, List.length_singleton] at this
  · rw [if_neg hsel] at hbody ⊢
    rw [List.append_nil]
    exact ⟨_, _, _, htest, Or.inl hbody, hstep _ _ _ _, NgInv.ofArr v6 v7' hA⟩

/-- the whole loop: afterwards the array holds the copies of all selected entries -/
theorem ng_loop {m0 : Mem} {bk bl0 fa cell bu be bea : Nat} {es : List Econf.Entry} {names0 : List (List UInt8)} {gl0len cap : Nat}
    (C : NgCtx m0 bk bl0 fa cell be bea es gl0len cap) (fuel : Nat) (hf : gl0len + es.length + 2 < fuel)
    (st : St) (h : NgInv m0 bk bl0 fa cell bu be names0 gl0len cap (selUpTo es 0) 0 st) :
    ∃ R, exec fuel ngLoop st = .normal R ∧ NgInv m0 bk bl0 fa cell bu be names0 gl0len cap (selUpTo es es.length) es.length R := by
  unfold ngLoop
  rw [exec_for]
  refine loop_inv _ _ _ _ es.length (fun i st => NgInv m0 bk bl0 fa cell bu be names0 gl0len cap (selUpTo es i) i st)
    (fun i st hi hinv => ng_round C fuel hf i hi st hinv) ?_ st fuel h (by omega)
  intro st hinv
  obtain ⟨v6, v7, hloc⟩ := hinv.loc
  obtain ⟨mem, loc⟩ := st
  simp only at hloc; subst hloc
  have htest := ef_test 3 5 mem (ngLoc bk cell bu be (selUpTo es es.length).length es.length v6 v7) be bea es _ es.length (C.src.mono hinv.agree) rfl rfl
  simp only [Nat.lt_irrefl, decide_false] at htest
  exact ⟨_, htest, hinv⟩

/-- what `insert_nogroup` copies: nothing when the base has group-less entries, else the override's group-less first definitions -/
def ngSel (us es : List Econf.Entry) : List Econf.Entry := if Econf.hasGroup us Econf.NONE then [] else selUpTo es es.length

/-- the function is: `added_keys = 0`, the question whether the base has group-less entries (the literal stays behind the memory, the answer
    in variable 8), the loop if it has none, `return added_keys` -/
theorem insert_nogroup_run (fuel : Nat) (m : Mem) (bk cell bu bua be n : Nat) (us : List Econf.Entry) (T : St)
    (hU : KfMem m bu bua (entsOf us)) (husmall : (us.length : Int) + 1 < 18446744073709551616) (hf : us.length < fuel)
    (hrest : exec fuel (.ite (.un .lnot (.load (.var 8) .bool) .i32) (.seq (.expr (.assign (.var 5) (.cast .u64 (.lit 0 .i32)) .u64)) ngLoop) .skip)
      { mem := m ++ [noneLit], loc := List.set [.ptr bk 0, .ptr cell 0, .ptr bu 0, .ptr be 0, .int 0, .undef, .undef, .undef, .undef] 8
          (.int (if Econf.hasGroup us Econf.NONE then 1 else 0)) } = .normal T)
    (hT : T.loc[4]? = some (.int (n : Int))) :
    exec fuel LeafFns.insert_nogroup.body { mem := m, loc := [.ptr bk 0, .ptr cell 0, .ptr bu 0, .ptr be 0, .undef, .undef, .undef, .undef, .undef] } =
      .ret (.int (n : Int)) T := by
  have hinit : exec fuel (.expr (.assign (.var 4) (.cast .u64 (.lit 0 .i32)) .u64))
      { mem := m, loc := [.ptr bk 0, .ptr cell 0, .ptr bu 0, .ptr be 0, .undef, .undef, .undef, .undef, .undef] } =
      .normal { mem := m, loc := [.ptr bk 0, .ptr cell 0, .ptr bu 0, .ptr be 0, .int 0, .undef, .undef, .undef, .undef] } :=
    u64_zero fuel 4 _ _ (by simp)
  have ht2 : testOf (some (.load (.var 2) .ptr)) { mem := m, loc := [.ptr bk 0, .ptr cell 0, .ptr bu 0, .ptr be 0, .int 0, .undef, .undef, .undef, .undef] } =
      .ok (true, { mem := m, loc := [.ptr bk 0, .ptr cell 0, .ptr bu 0, .ptr be 0, .int 0, .undef, .undef, .undef, .undef] }) := by
    simp [mc_eval, testOf, truth]
  have ht3 : testOf (some (.load (.var 3) .ptr)) { mem := m, loc := [.ptr bk 0, .ptr cell 0, .ptr bu 0, .ptr be 0, .int 0, .undef, .undef, .undef, .undef] } =
      .ok (true, { mem := m, loc := [.ptr bk 0, .ptr cell 0, .ptr bu 0, .ptr be 0, .int 0, .undef, .undef, .undef, .undef] }) := by
    simp [mc_eval, testOf, truth]
  have hcall := call_has_group 2 8 (.strlit [95, 110, 111, 110, 101, 95]) fuel m (m ++ [noneLit])
    [.ptr bk 0, .ptr cell 0, .ptr bu 0, .ptr be 0, .int 0, .undef, .undef, .undef, .undef] bu bua m.length us Econf.NONE
    (hU.mono (fun b hb => append_get hb)) rfl rfl (lit_cstr m _ (by decide)) (by simp) husmall hf
  have hret : exec fuel (.ret (some (.load (.var 4) .u64))) T = .ret (.int (n : Int)) T := by
    simp [mc_exec, evalE_var (ty := .u64) (st := T) hT (by simp)]
  rw [insert_nogroup_shape, exec_seq_normal hinit,
    exec_seq_normal (st' := T) (by rw [exec_ite_true ht2, exec_ite_true ht3, exec_seq_normal hcall, hrest]), hret]

/-- `insert_nogroup` on the generated term, both objects present: it returns the number of entries it copied; the first words of the new array
    hold the model's copies of those entries; the destination's group list has got the group-less marker if anything was copied; the caller's
    other memory is as before. -/
theorem insert_nogroup_exec (m : Mem) (bk bl0 fa cell bu bua be bea : Nat) (us es : List Econf.Entry) (gl0 : List (Nat × List UInt8)) (cap : Nat)
    (hU : KfMem m bu bua (entsOf us)) (husmall : (us.length : Int) + 1 < 18446744073709551616)
    (C : NgCtx m bk bl0 fa cell be bea es gl0.length cap)
    (hG : GlMem m bk bl0 gl0) (hkw : ∀ blk, m[bk]? = some blk → blk.writable = true) (hne : gl0 ≠ [] → bk ≠ bl0) (hd : ∀ x, x ∈ gl0 → x.1 ≠ bk ∧ x.1 ≠ bl0)
    (ablk : Block) (ha1 : m[fa]? = some ablk) (ha2 : ablk.live = true) (ha3 : ablk.writable = true) (ha4 : ablk.cells = []) (ha5 : ablk.slots.length = 7 * cap)
    (fuel : Nat) (hf : gl0.length + es.length + us.length + 2 < fuel) :
    ∃ m' loc' bl' gl', exec fuel LeafFns.insert_nogroup.body
        { mem := m, loc := [.ptr bk 0, .ptr cell 0, .ptr bu 0, .ptr be 0, .undef, .undef, .undef, .undef, .undef] } =
        .ret (.int ((ngSel us es).length : Int)) { mem := m', loc := loc' } ∧
      GlMem m' bk bl' gl' ∧
      gl'.map (·.2) = (if (ngSel us es).length = 0 then gl0.map (·.2) else Econf.addGroup (gl0.map (·.2)) Econf.NONE) ∧
      (∀ j (h : j < (ngSel us es).length), EntMem m' fa (7 * j) (Econf.cpyEntry ((ngSel us es)[j])) [bk, bl']) ∧
      (∀ b, b < m.length → b ∉ [bk, bl0, fa] → m'[b]? = m[b]?) ∧ m.length ≤ m'.length ∧
      (bl' = bl0 ∨ m.length ≤ bl') ∧ (∀ kb blk, m[bk]? = some kb → m'[bk]? = some blk → KfKeep kb blk) ∧ (gl' ≠ [] → bk ≠ bl') ∧ (∀ x, x ∈ gl' → x.1 ≠ bk ∧ x.1 ≠ bl') ∧
      gl'.length ≤ gl0.length + (ngSel us es).length ∧
      ∃ ablk', m'[fa]? = some ablk' ∧ ablk'.live = true ∧ ablk'.writable = true ∧ ablk'.cells = [] ∧ ablk'.slots.length = 7 * cap := by
  have hfu : us.length < fuel := by omega
  have hfl : gl0.length + es.length + 2 < fuel := by omega
  -- the state in which the loop starts: the literal behind the memory, nothing copied yet
  have hinv : NgInv m bk bl0 fa cell bu be (gl0.map (·.2)) gl0.length cap [] 0
      { mem := m ++ [noneLit], loc := ngLoc bk cell bu be 0 0 .undef .undef } :=
    NgInv.ofArr .undef .undef ((ArrSt.init 0 hG hkw hne hd ha1 ha2 ha3 ha4 ha5).frame (m ++ [noneLit]) (fun b hb => append_get hb) (by simp) C.fa_lt C.bk_lt)
  cases hhas : Econf.hasGroup us Econf.NONE with
  | true =>
    -- the base has group-less entries: nothing is inserted
    have hsel : ngSel us es = [] := by simp [ngSel, hhas]
    have hrun := insert_nogroup_run fuel m bk cell bu bua be 0 us
      { mem := m ++ [noneLit], loc := [.ptr bk 0, .ptr cell 0, .ptr bu 0, .ptr be 0, .int 0, .undef, .undef, .undef, .int 1] } hU husmall hfu
      (by rw [hhas, exec_ite_false (test_not_flag 8 _ _ 1 rfl (Or.inr rfl))]
          simp [mc_exec]) rfl
    rw [hsel]
    obtain ⟨bl', gl', d1, d2, d3, d4, d5, d6, d7, d8⟩ := hinv.dest
    exact ⟨_, _, bl', gl', hrun, d1, d7, d8, hinv.agree, hinv.grows, d2, d3, d4, d5, d6, hinv.arr⟩
  | false =>
    -- no group-less entry in the base: the loop runs
    have hsel0 : selUpTo es 0 = [] := by simp [selUpTo]
    obtain ⟨R, hloop, hinvR⟩ := ng_loop C fuel hfl _ (hsel0 ▸ hinv)
    obtain ⟨v6, v7, hlocR⟩ := hinvR.loc
    have hi5 : exec fuel (.expr (.assign (.var 5) (.cast .u64 (.lit 0 .i32)) .u64))
        { mem := m ++ [noneLit], loc := [.ptr bk 0, .ptr cell 0, .ptr bu 0, .ptr be 0, .int 0, .undef, .undef, .undef, .int 0] } =
        .normal { mem := m ++ [noneLit], loc := ngLoc bk cell bu be 0 0 .undef .undef } :=
      u64_zero fuel 5 _ _ (by simp)
    have hrun := insert_nogroup_run fuel m bk cell bu bua be (selUpTo es es.length).length us R hU husmall hfu
      (by rw [hhas, exec_ite_true (test_not_flag 8 _ _ 0 rfl (Or.inl rfl))]
          exact (exec_seq_normal hi5).trans hloop) (by rw [hlocR]; rfl)
    have hsel : ngSel us es = selUpTo es es.length := by simp [ngSel, hhas]
    rw [hsel]
    obtain ⟨bl', gl', d1, d2, d3, d4, d5, d6, d7, d8⟩ := hinvR.dest
    exact ⟨R.mem, R.loc, bl', gl', hrun, d1, d7, d8, hinvR.agree, hinvR.grows, d2, d3, d4, d5, d6, hinvR.arr⟩

theorem ngSel_model (us es : List Econf.Entry) : (ngSel us es).map Econf.cpyEntry = Econf.insertNoGroup us es := by
  unfold ngSel Econf.insertNoGroup
  split
  · rfl
  · rw [selUpTo_model]

/-- `insert_nogroup`, generated term against the model: it returns the length of the model's `insertNoGroup`, the new array starts with
    exactly those entries, the destination's group list is the old one with the group-less marker added if anything was inserted, and
    nothing else of the caller's memory has changed -/
theorem C_insert_nogroup (m : Mem) (bk bl0 fa cell bu bua be bea : Nat) (us es : List Econf.Entry) (gl0 : List (Nat × List UInt8)) (cap : Nat)
    (hU : KfMem m bu bua (entsOf us)) (husmall : (us.length : Int) + 1 < 18446744073709551616)
    (C : NgCtx m bk bl0 fa cell be bea es gl0.length cap)
    (hG : GlMem m bk bl0 gl0) (hkw : ∀ blk, m[bk]? = some blk → blk.writable = true) (hne : gl0 ≠ [] → bk ≠ bl0) (hd : ∀ x, x ∈ gl0 → x.1 ≠ bk ∧ x.1 ≠ bl0)
    (ablk : Block) (ha1 : m[fa]? = some ablk) (ha2 : ablk.live = true) (ha3 : ablk.writable = true) (ha4 : ablk.cells = []) (ha5 : ablk.slots.length = 7 * cap)
    (fuel : Nat) (hf : gl0.length + es.length + us.length + 2 < fuel) :
    ∃ m' loc' bl' gl', exec fuel LeafFns.insert_nogroup.body
        { mem := m, loc := [.ptr bk 0, .ptr cell 0, .ptr bu 0, .ptr be 0, .undef, .undef, .undef, .undef, .undef] } =
        .ret (.int ((Econf.insertNoGroup us es).length : Int)) { mem := m', loc := loc' } ∧
      GlMem m' bk bl' gl' ∧
      gl'.map (·.2) = (if (Econf.insertNoGroup us es).length = 0 then gl0.map (·.2) else Econf.addGroup (gl0.map (·.2)) Econf.NONE) ∧
      (∀ j (h : j < (Econf.insertNoGroup us es).length), EntMem m' fa (7 * j) ((Econf.insertNoGroup us es)[j]) [bk, bl']) ∧
      (∀ b, b < m.length → b ∉ [bk, bl0, fa] → m'[b]? = m[b]?) ∧ m.length ≤ m'.length := by
  obtain ⟨m', loc', bl', gl', hex, hG', hn, hE, hfr, hlen', _⟩ :=
    insert_nogroup_exec m bk bl0 fa cell bu bua be bea us es gl0 cap hU husmall C hG hkw hne hd ablk ha1 ha2 ha3 ha4 ha5 fuel hf
  have hm := ngSel_model us es
  have hlen : (Econf.insertNoGroup us es).length = (ngSel us es).length := by rw [← hm]; simp
  refine ⟨m', loc', bl', gl', by rw [hlen]; exact hex, hG', by rw [hlen]; exact hn, ?_, hfr, hlen'⟩
  intro j hj
  have hj' : j < (ngSel us es).length := by omega
  have : (Econf.insertNoGroup us es)[j] = Econf.cpyEntry ((ngSel us es)[j]) := by simp [← hm]
  rw [this]; exact hE j hj'

end LeafKf

namespace LeafKf.Example

/-! A concrete caller's memory that meets every hypothesis of `C_insert_nogroup` (the premises are satisfiable, and by more than
    the empty object): a destination without groups, a base with one entry in group `A`, an override with a group-less entry
    (value, comment behind the value), a second definition of the same key, and an entry of another group without value. -/

def str (s : List UInt8) : Block := { cells := (s ++ [0]).map some }

def us : List Econf.Entry := [{ group := [65], key := [107], value := some [49], cb := none, ca := none, line := 1, quotes := false }]
def es : List Econf.Entry := [
  { group := Econf.NONE, key := [120], value := some [50], cb := none, ca := some [99], line := 2, quotes := true },
  { group := Econf.NONE, key := [120], value := some [51], cb := none, ca := none, line := 3, quotes := false },
  { group := [66], key := [121], value := none, cb := none, ca := none, line := 5, quotes := false }]

/-- the sixteen members of `struct econf_file` in the order of `LeafFns.records` -/
def kfSlots (arr : Val) (n : Int) (groups : Val) (ng : Int) : List Val :=
  [arr, .int n, .int n, .int 61, .int 35, .int 0, .null, .int 0, .int 0, .null, .int 0, .null, .int 0, groups, .int ng, .null]

def mem : Mem := [
  /- 0 destination -/ { cells := [], slots := kfSlots .null 0 (.ptr 1 0) 0 },
  /- 1 its group array -/ { cells := [], slots := [.null] },
  /- 2 the cell `*fe` -/ { cells := [], slots := [.ptr 3 0] },
  /- 3 the new array, room for 3 -/ { cells := [], slots := List.replicate 21 .undef },
  /- 4 base -/ { cells := [], slots := kfSlots (.ptr 5 0) 1 .null 0 },
  /- 5 its entries -/ { cells := [], slots := [.ptr 6 0, .ptr 7 0, .ptr 8 0, .null, .null, .int 1, .int 0] },
  str [65], str [107], str [49],
  /- 9 override -/ { cells := [], slots := kfSlots (.ptr 10 0) 3 .null 0 },
  /- 10 its entries -/ { cells := [], slots := [.ptr 11 0, .ptr 12 0, .ptr 13 0, .null, .ptr 14 0, .int 2, .int 1,
                                                 .ptr 15 0, .ptr 16 0, .ptr 17 0, .null, .null, .int 3, .int 0,
                                                 .ptr 18 0, .ptr 19 0, .null, .null, .null, .int 5, .int 0] },
  str Econf.NONE, str [120], str [50], str [99], str Econf.NONE, str [120], str [51], str [66], str [121]]

theorem base_ok : KfMem mem 4 5 (entsOf us) :=
  ⟨⟨_, rfl, rfl, rfl, rfl⟩, ⟨_, rfl, rfl, rfl, fun i hi => by
    have : i = 0 := by simp [entsOf, us] at hi; omega
    subst this
    exact ⟨6, 7, rfl, rfl, rfl, rfl⟩⟩⟩

theorem ent0 : EntMem mem 10 (7 * 0) es[0] [0, 1, 3] :=
  ⟨by decide, ⟨11, rfl, rfl, by decide⟩, ⟨12, rfl, rfl, by decide⟩, ⟨.ptr 13 0, rfl, .some 13 _ rfl, fun b hb => by cases hb; decide⟩,
    ⟨.null, rfl, .none, fun b hb => by cases hb⟩, ⟨.ptr 14 0, rfl, .some 14 _ rfl, fun b hb => by cases hb; decide⟩, rfl⟩

theorem ent1 : EntMem mem 10 (7 * 1) es[1] [0, 1, 3] :=
  ⟨by decide, ⟨15, rfl, rfl, by decide⟩, ⟨16, rfl, rfl, by decide⟩, ⟨.ptr 17 0, rfl, .some 17 _ rfl, fun b hb => by cases hb; decide⟩,
    ⟨.null, rfl, .none, fun b hb => by cases hb⟩, ⟨.null, rfl, .none, fun b hb => by cases hb⟩, rfl⟩

theorem ent2 : EntMem mem 10 (7 * 2) es[2] [0, 1, 3] :=
  ⟨by decide, ⟨18, rfl, rfl, by decide⟩, ⟨19, rfl, rfl, by decide⟩, ⟨.null, rfl, .none, fun b hb => by cases hb⟩,
    ⟨.null, rfl, .none, fun b hb => by cases hb⟩, ⟨.null, rfl, .none, fun b hb => by cases hb⟩, rfl⟩

theorem override_ok : SrcMem mem 9 10 es [0, 1, 3] :=
  ⟨⟨_, rfl, rfl, rfl, rfl⟩, by decide, ⟨_, rfl, rfl, rfl⟩, by decide, fun i hi => by
    have : i = 0 ∨ i = 1 ∨ i = 2 := by simp [es] at hi; omega
    rcases this with rfl | rfl | rfl
    · exact ent0
    · exact ent1
    · exact ent2⟩

theorem ctx_ok : NgCtx mem 0 1 3 2 9 10 es 0 3 :=
  ⟨override_ok, ⟨_, rfl, rfl, rfl⟩, by decide, by decide, by decide, by decide, by decide, by decide, by decide, fun e he => by
    simp [es] at he
    rcases he with rfl | rfl | rfl <;> decide⟩

theorem dest_ok : GlMem mem 0 1 [] := Or.inl ⟨⟨_, rfl, rfl, rfl, rfl⟩, ⟨_, rfl, rfl, rfl, fun i hi => by simp at hi⟩⟩

/-- what the model says for this pair: exactly the first group-less definition, its quote flag cleared -/
theorem model_says : Econf.insertNoGroup us es = [{ group := Econf.NONE, key := [120], value := some [50], cb := none, ca := some [99], line := 2, quotes := false }] := by
  decide

/-- and so does the translated C function on this memory, by the general theorem -/
theorem run : ∃ m' loc' bl' gl', exec 10 LeafFns.insert_nogroup.body
      { mem := mem, loc := [.ptr 0 0, .ptr 2 0, .ptr 4 0, .ptr 9 0, .undef, .undef, .undef, .undef, .undef] } = .ret (.int 1) { mem := m', loc := loc' } ∧
    GlMem m' 0 bl' gl' ∧ gl'.map (·.2) = [Econf.NONE] ∧
    EntMem m' 3 0 { group := Econf.NONE, key := [120], value := some [50], cb := none, ca := some [99], line := 2, quotes := false } [0, bl'] := by
  obtain ⟨m', loc', bl', gl', hex, hG, hn, hE, _, _⟩ :=
    C_insert_nogroup mem 0 1 3 2 4 5 9 10 us es [] 3 base_ok (by decide) ctx_ok dest_ok
      (fun blk hb => by cases hb; rfl) (by decide) (fun x hx => by cases hx) _ rfl rfl rfl rfl rfl 10 (by decide)
  rw [model_says] at hex hn hE
  exact ⟨m', loc', bl', gl', hex, hG, by simpa [Econf.addGroup] using hn, by simpa using hE 0 (by simp)⟩

end LeafKf.Example
