import Generated.Facts
import Econf.Writer
import Econf.Layered
import Econf.Lemmas.ParserLemmas

/-!
  # The constants of the model are the constants of the source

  `Generated/Facts.lean` is re-extracted from /repo on every run (`gen/extract_facts.py`).  The
  theorems here pin the literals the hand-written model uses – error numbering, the group-less marker,
  option names, boolean words, default directories – and the set of error codes each parser / gate
  function can hand out to what the C source says *now*.  A change of one of these in /repo breaks an
  evaluation here, and the checks that list the theorem report it (with a search for a failing input).
-/

namespace Econf.Struct
open Generated

/-- the C name of every code of the model -/
def cname : Err → String
  | .success => "ECONF_SUCCESS" | .error => "ECONF_ERROR" | .nomem => "ECONF_NOMEM" | .nofile => "ECONF_NOFILE"
  | .nogroup => "ECONF_NOGROUP" | .nokey => "ECONF_NOKEY" | .emptykey => "ECONF_EMPTYKEY" | .writeerror => "ECONF_WRITEERROR"
  | .parseError => "ECONF_PARSE_ERROR" | .missingBracket => "ECONF_MISSING_BRACKET"
  | .missingDelimiter => "ECONF_MISSING_DELIMITER" | .emptySectionName => "ECONF_EMPTY_SECTION_NAME"
  | .textAfterSection => "ECONF_TEXT_AFTER_SECTION" | .fileListIsNull => "ECONF_FILE_LIST_IS_NULL"
  | .wrongBooleanValue => "ECONF_WRONG_BOOLEAN_VALUE" | .keyHasNullValue => "ECONF_KEY_HAS_NULL_VALUE"
  | .wrongOwner => "ECONF_WRONG_OWNER" | .wrongGroup => "ECONF_WRONG_GROUP"
  | .wrongFilePermission => "ECONF_WRONG_FILE_PERMISSION" | .wrongDirPermission => "ECONF_WRONG_DIR_PERMISSION"
  | .fileIsSymLink => "ECONF_ERROR_FILE_IS_SYM_LINK" | .parsingCallbackFailed => "ECONF_PARSING_CALLBACK_FAILED"
  | .argumentIsNullValue => "ECONF_ARGUMENT_IS_NULL_VALUE" | .optionNotFound => "ECONF_OPTION_NOT_FOUND"
  | .valueConversionError => "ECONF_VALUE_CONVERSION_ERROR"

def allErrs : List Err :=
  [.success, .error, .nomem, .nofile, .nogroup, .nokey, .emptykey, .writeerror, .parseError, .missingBracket,
   .missingDelimiter, .emptySectionName, .textAfterSection, .fileListIsNull, .wrongBooleanValue, .keyHasNullValue,
   .wrongOwner, .wrongGroup, .wrongFilePermission, .wrongDirPermission, .fileIsSymLink, .parsingCallbackFailed,
   .argumentIsNullValue, .optionNotFound, .valueConversionError]

theorem allErrs_complete (e : Err) : e ∈ allErrs := by cases e <;> decide +kernel

/-- in a table made from a list by pairwise distinct keys, every key finds its own row -/
theorem lookup_map_of_nodup {α κ β} [BEq κ] [LawfulBEq κ] (k : α → κ) (v : α → β) (l : List α)
    (hnd : (l.map k).Nodup) (a : α) (ha : a ∈ l) : (l.map (fun a => (k a, v a))).lookup (k a) = some (v a) := by
  induction l with
  | nil => cases ha
  | cons b l ih =>
    rw [List.map_cons, List.nodup_cons] at hnd
    rw [List.map_cons, List.lookup_cons]
    rcases List.mem_cons.1 ha with rfl | ha
    · rw [beq_self_eq_true]
    · rw [beq_false_of_ne (fun h : k a = k b => hnd.1 (h ▸ List.mem_map_of_mem ha))]
      exact ih hnd.2 ha

/-- keys that are pairwise distinct along a list determine its elements -/
theorem eq_of_nodup_map {α β} (f : α → β) {l : List α} (h : (l.map f).Nodup) {a b : α} (ha : a ∈ l) (hb : b ∈ l)
    (hab : f a = f b) : a = b := by
  induction l with
  | nil => cases ha
  | cons c l ih =>
    rw [List.map_cons, List.nodup_cons] at h
    rcases List.mem_cons.1 ha with rfl | ha'
    · rcases List.mem_cons.1 hb with rfl | hb'
      · rfl
      · exact absurd (hab ▸ List.mem_map_of_mem hb') h.1
    · rcases List.mem_cons.1 hb with rfl | hb'
      · exact absurd (hab ▸ List.mem_map_of_mem ha') h.1
      · exact ih h.2 ha' hb'

/-- the UTF-8 bytes of a text read as one number: texts with distinct numbers are distinct, and the
    kernel compares numbers in one step, strings byte by byte -/
def bytesNum (s : String) : Nat := s.toByteArray.data.toList.foldl (fun n b => 256 * n + b.toNat) 0

theorem cname_nodup : (allErrs.map cname).Nodup := by
  have hnum : ((allErrs.map cname).map bytesNum).Nodup := by decide +kernel
  exact List.Pairwise.of_map bytesNum (fun _ _ h hab => h (congrArg _ hab)) hnum

/-- the numbering used by the model (and printed by its driver) is the numbering of the enum in
    include/libeconf.h, constant by constant; and the enum has no further constant -/
theorem tie_err_codes :
    (∀ e ∈ allErrs, errEnum.lookup (cname e) = some e.code) ∧ errEnum.length = allErrs.length := by
  have htab : errEnum = allErrs.map (fun e => (cname e, e.code)) := rfl
  exact ⟨fun e he => htab ▸ lookup_map_of_nodup cname Err.code allErrs cname_nodup e he, rfl⟩

/-- the group-less marker and the default layer directories -/
theorem tie_macros :
    stringMacros.lookup "KEY_FILE_NULL_VALUE" = some NONE ∧
    stringMacros.lookup "DEFAULT_RUN_SUBDIR" = some [0x2f, 0x72, 0x75, 0x6e] ∧
    stringMacros.lookup "DEFAULT_ETC_SUBDIR" = some [0x2f, 0x65, 0x74, 0x63] := by decide +kernel

def cmpOf (file fn : String) : Option (List (List UInt8)) :=
  (cmpStrings.find? (fun x => x.1 == file && x.2.1 == fn)).map (·.2.2)

def refsOf (file fn : String) : Option (List String) :=
  (errRefs.find? (fun x => x.1 == file && x.2.1 == fn)).map (·.2.2)

/-- the option names `econf_newKeyFile_with_options` compares its items with are exactly the five the
    model knows, spelled the same -/
theorem tie_option_names :
    cmpOf "libeconf.c" "econf_newKeyFile_with_options" =
      some [optConfigDirs, optJoin, optParsingDirs, optPython, optRootPrefix] := by decide +kernel

/-- the words the boolean getter and setter compare with are the words of `classifyBool` -/
theorem tie_bool_words :
    cmpOf "keyfile.c" "getBoolValueNum" = some [[0x30], [0x31], NONE, [0x66, 0x61, 0x6c, 0x73, 0x65], [0x6e, 0x6f], [0x74, 0x72, 0x75, 0x65], [0x79, 0x65, 0x73]] ∧
    cmpOf "keyfile.c" "setBoolValueNum" = some [[0x30], [0x31], NONE, [0x66, 0x61, 0x6c, 0x73, 0x65], [0x6e, 0x6f], [0x74, 0x72, 0x75, 0x65], [0x79, 0x65, 0x73]] := by decide +kernel

/-- which of the model's codes the parser can return (`ParseErr`), by C name -/
def parseErrNames : List String :=
  ["ECONF_EMPTY_SECTION_NAME", "ECONF_MISSING_BRACKET", "ECONF_MISSING_DELIMITER", "ECONF_TEXT_AFTER_SECTION"]

theorem parseErr_names (e : Err) : ParseErr e ↔ cname e ∈ parseErrNames := by
  have hn : parseErrNames = [Err.emptySectionName, .missingBracket, .missingDelimiter, .textAfterSection].map cname := rfl
  rw [hn, List.mem_map, ParseErr]
  constructor
  · intro h
    rcases h with rfl | rfl | rfl | rfl <;> exact ⟨_, by simp, rfl⟩
  · rintro ⟨a, ha, hae⟩
    rw [← eq_of_nodup_map cname cname_nodup (allErrs_complete a) (allErrs_complete e) hae]
    simp only [List.mem_cons, List.not_mem_nil, or_false] at ha
    rcases ha with rfl | rfl | rfl | rfl <;> simp

/-- the line loop (`read_file`, `store`, `join_same_entries`) mentions no error code but the four
    parse errors, out-of-memory, file-not-found and success: the closed error set of `C04_read_total`
    is the set the source can produce -/
theorem tie_parser_codes :
    refsOf "getfilecontents.c" "read_file" =
      some (["ECONF_EMPTY_SECTION_NAME", "ECONF_MISSING_BRACKET", "ECONF_MISSING_DELIMITER", "ECONF_NOFILE", "ECONF_NOMEM",
             "ECONF_SUCCESS", "ECONF_TEXT_AFTER_SECTION"]) ∧
    refsOf "getfilecontents.c" "store" = some ["ECONF_MISSING_DELIMITER", "ECONF_NOMEM", "ECONF_SUCCESS"] ∧
    refsOf "getfilecontents.c" "join_same_entries" = some ["ECONF_NOMEM", "ECONF_SUCCESS"] := by decide +kernel

/-- the gate in front of the line loop (`read_file_with_callback`) hands out exactly the codes of the
    model's `gate`/`readFileCB` (plus the permission codes of the unused permission check) -/
theorem tie_gate_codes :
    refsOf "getfilecontents.c" "read_file_with_callback" =
      some ["ECONF_ERROR", "ECONF_ERROR_FILE_IS_SYM_LINK", "ECONF_NOFILE", "ECONF_PARSING_CALLBACK_FAILED", "ECONF_SUCCESS",
            "ECONF_WRONG_DIR_PERMISSION", "ECONF_WRONG_FILE_PERMISSION", "ECONF_WRONG_GROUP", "ECONF_WRONG_OWNER"] := by decide +kernel

/-! ### C10: the read-only API functions have no place where they could modify the object

`gen/frames.py` computes, over clang's AST of lib/*.c, for every function and parameter the places where
memory reachable from the parameter (member / index / dereference chains, local pointers derived from
them, results of functions that return a pointer into their argument) is stored into, handed to a function
that writes through that argument (fixed point over the call graph, libc writers listed), or freed.  The
fact below is the list of such places for the `econf_file` argument of the getters, the listings, the
extended getter and the writer: it is empty.  (Both independently written C10 changes – `strsep` on the stored
comment in the writer, trimming the stored value in place in the extended getter – make it non-empty.) -/

theorem C10_frames :
    kfMutations = [] ∧
    readonlyApi = ["econf_getBoolValue", "econf_getBoolValueDef", "econf_getDoubleValue", "econf_getDoubleValueDef", "econf_getExtValue",
      "econf_getFloatValue", "econf_getFloatValueDef", "econf_getGroups", "econf_getInt64Value", "econf_getInt64ValueDef",
      "econf_getIntValue", "econf_getIntValueDef", "econf_getKeys", "econf_getPath", "econf_getStringValue", "econf_getStringValueDef",
      "econf_getUInt64Value", "econf_getUInt64ValueDef", "econf_getUIntValue", "econf_getUIntValueDef", "econf_writeFile"] := ⟨rfl, rfl⟩

/-- the whole table: through which of its parameters each exported function can write.  Getters and
    listings write through their result parameters only, setters and readers through the object (pointer)
    they are given, `econf_mergeFiles` through its result pointer only – not through its two inputs (C03:
    the merge is non-destructive) –, `econf_writeFile` and `econf_getPath` through none. -/
theorem api_frames :
    apiWrites = [("econf_errLocation", [0, 1]), ("econf_freeArray", [0]), ("econf_freeArrayp", [0]), ("econf_freeExtValue", [0]),
      ("econf_freeFile", [0]), ("econf_freeFilep", [0]), ("econf_getBoolValue", [3]), ("econf_getBoolValueDef", [3]),
      ("econf_getDoubleValue", [3]), ("econf_getDoubleValueDef", [3]), ("econf_getExtValue", [3]), ("econf_getFloatValue", [3]),
      ("econf_getFloatValueDef", [3]), ("econf_getGroups", [1, 2]), ("econf_getInt64Value", [3]), ("econf_getInt64ValueDef", [3]),
      ("econf_getIntValue", [3]), ("econf_getIntValueDef", [3]), ("econf_getKeys", [2, 3]), ("econf_getStringValue", [3]),
      ("econf_getStringValueDef", [3]), ("econf_getUInt64Value", [3]), ("econf_getUInt64ValueDef", [3]), ("econf_getUIntValue", [3]),
      ("econf_getUIntValueDef", [3]), ("econf_mergeFiles", [0]), ("econf_newIniFile", [0]), ("econf_newKeyFile", [0]),
      ("econf_newKeyFile_with_options", [0]), ("econf_readConfig", [0]), ("econf_readConfigWithCallback", [0]), ("econf_readDirs", [0]),
      ("econf_readDirsHistory", [0, 1]), ("econf_readDirsHistoryWithCallback", [0, 1]), ("econf_readDirsWithCallback", [0]),
      ("econf_readFile", [0]), ("econf_readFileWithCallback", [0]), ("econf_setBoolValue", [0]), ("econf_setDoubleValue", [0]),
      ("econf_setFloatValue", [0]), ("econf_setInt64Value", [0]), ("econf_setIntValue", [0]), ("econf_setStringValue", [0]),
      ("econf_setUInt64Value", [0]), ("econf_setUIntValue", [0]), ("econf_set_comment_tag", [0]), ("econf_set_delimiter_tag", [0])] := rfl

end Econf.Struct
