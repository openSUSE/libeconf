import Econf.Lemmas.LayeredLemmas

/-!
  C12 — all layered-read entry points agree with each other and with the history.

  In the model the wrappers are separate functions mirroring their own argument marshalling
  (`readDirs` allocates a fresh object with the two directories, `readConfig` prepares the
  caller's object, `readDirsHistory` passes the process-wide drop-in list and no options), so
  the agreement below is not true by definition.
-/

namespace Econf

def acceptAll : Callback := some (fun _ _ => true)

theorem accepts_acceptAll (k1 k2 : Nat) (p : Str) : accepts acceptAll k1 p = accepts none k2 p := rfl

/-- the history with an always-accepting callback is the history without callback -/
theorem C12_history_callback (fs : FS) (s : RdState) (usr etc name suffix : Option Str) (delim : Option Str) (comment : Str) :
    (readDirsHistory { fs := fs, cb := acceptAll } s usr etc name suffix delim comment).2 =
      (readDirsHistory { fs := fs, cb := none } s usr etc name suffix delim comment).2 := by
  unfold readDirsHistory
  exact (readHistory_sim fs acceptAll none accepts_acceptAll s s rfl _ _ _ _ _ _ _ _ (fun _ _ _ => rfl)).1

/-- Any two callbacks that decide alike, from any two states with the same drop-in list whose gates
    agree on every file: the layered read returns the same.  The callback theorems below are the
    instance "always accepting" against "none", from one state. -/
theorem readConfigCore_sim (fs : FS) (cb1 cb2 : Callback) (ha : ∀ k1 k2 p, accepts cb1 k1 p = accepts cb2 k2 p)
    (s1 s2 : RdState) (hd : dataOf s1.g = dataOf s2.g) (kf : KeyFile) (name suffix delim : Option Str) (comment : Str)
    (hg : ∀ p node, fs.lstat p = some node → gate s1.g node = gate s2.g node) :
    (readConfigCore ⟨fs, cb1⟩ s1 kf name suffix delim comment).2 = (readConfigCore ⟨fs, cb2⟩ s2 kf name suffix delim comment).2 := by
  rw [readConfigCore_result, readConfigCore_result, show s1.g.confDirs = s2.g.confDirs from hd,
    (readHistory_sim fs cb1 cb2 ha s1 s2 hd _ _ _ _ _ _ _ _ hg).1]

/-- `econf_readDirsWithCallback` with an accepting callback = `econf_readDirs` -/
theorem C12_dirs_callback (fs : FS) (s : RdState) (usr etc name suffix : Option Str) (delim : Option Str) (comment : Str) :
    (readDirs { fs := fs, cb := acceptAll } s usr etc name suffix delim comment).2 =
      (readDirs { fs := fs, cb := none } s usr etc name suffix delim comment).2 := by
  rw [readDirs_result, readDirs_result, readConfigCore_sim fs acceptAll none accepts_acceptAll s s rfl _ _ _ _ _ (fun _ _ _ => rfl)]

/-- `econf_readConfigWithCallback` with an accepting callback = `econf_readConfig` -/
theorem C12_config_callback (fs : FS) (s : RdState) (slot : Option KeyFile) (project usrSubdir name suffix : Option Str)
    (delim : Option Str) (comment : Str) :
    (readConfig { fs := fs, cb := acceptAll } s slot project usrSubdir name suffix delim comment).2 =
      (readConfig { fs := fs, cb := none } s slot project usrSubdir name suffix delim comment).2 := by
  rw [readConfig_result, readConfig_result, readConfigCore_sim fs acceptAll none accepts_acceptAll s s rfl _ _ _ _ _ (fun _ _ _ => rfl)]

/-- the layered read configured with the same two directories (option `PARSING_DIRS=<usr>:<etc>`,
    no other option) returns what the two-directory read returns, for a non-empty configuration name -/
theorem C12_dirs_config (ctx : RdCtx) (s : RdState) (kf0 : KeyFile) (usr etc : Str) (project usrSubdir : Option Str)
    (name : Str) (suffix : Option Str) (delim : Option Str) (comment : Str)
    (hn : name ≠ []) (hp : kf0.parseDirs = [usr, etc]) (hc : kf0.confDirs = []) (hj : kf0.join = false) (hy : kf0.python = false) :
    let a := readConfig ctx s (some kf0) project usrSubdir (some name) suffix delim comment
    let b := readDirs ctx s (some usr) (some etc) (some name) suffix delim comment
    a.2.1 = b.2.1 ∧
    (∀ m, (readConfigCore ctx s { parseDirs := [usr, etc] } (some name) suffix delim comment).2 = .ok m → a.2.2 = some m ∧ b.2.2 = some m) := by
  intro a b
  have hne : name.isEmpty = false := by
    cases name with
    | nil => exact absurd rfl hn
    | cons _ _ => rfl
  have hprep : prepareConfig kf0 project usrSubdir (some name) = (kf0, some name) := by
    unfold prepareConfig
    simp [hne, hp]
  have hcore : readConfigCore ctx s kf0 (some name) suffix delim comment =
      readConfigCore ctx s { parseDirs := [usr, etc] } (some name) suffix delim comment := by
    unfold readConfigCore
    simp only [hp, hc, hj, hy]
  have ha : a.2 = _ := readConfig_result ctx s (some kf0) project usrSubdir (some name) suffix delim comment
  have hb : b.2 = _ := readDirs_result ctx s (some usr) (some etc) (some name) suffix delim comment
  rw [ha, hb]
  simp only [Option.getD_some, hprep, hcore]
  cases (readConfigCore ctx s { parseDirs := [usr, etc] } (some name) suffix delim comment).2 with
  | ok m => exact ⟨rfl, fun m' h => by cases h; exact ⟨rfl, rfl⟩⟩
  | error e => exact ⟨rfl, fun m h => by cases h⟩

/-- the history variant lists the files that are merged: merging the history left to right,
    skipping a file when a later one has the same name, reproduces the result of the two-directory read -/
theorem C12_history (ctx : RdCtx) (s : RdState) (usr etc name suffix : Option Str) (delim : Option Str) (comment : Str) :
    (match (readDirsHistory ctx s usr etc name suffix delim comment).2 with
     | .ok files => (readDirs ctx s usr etc name suffix delim comment).2.2 = mergeHistory files ∧
                    (readDirs ctx s usr etc name suffix delim comment).2.1 = .success
     | .error (e, _) => (readDirs ctx s usr etc name suffix delim comment).2.1 = e) := by
  unfold readDirsHistory readDirs readConfigCore
  simp only [List.isEmpty_nil, if_true]
  have hnz := readHistory_nonempty ctx s [usr.getD [], etc.getD []] name suffix delim comment false false s.g.confDirs
  generalize readHistory ctx s [usr.getD [], etc.getD []] name suffix delim comment false false s.g.confDirs = x at hnz
  obtain ⟨t, r⟩ := x
  cases r with
  | error eb => obtain ⟨e, b⟩ := eb; rfl
  | ok files =>
    cases files with
    | nil => exact absurd rfl (hnz [] rfl)
    | cons k ks => exact ⟨rfl, rfl⟩

end Econf
