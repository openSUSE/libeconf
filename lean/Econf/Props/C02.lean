import Econf.Lemmas.GrammarLemmas

/-!
  # C02 – a conventionally written file parses to exactly the sections, keys and values written

  `Econf/Grammar.lean` is the conventional grammar as data (`Item`, `render`) together with what each
  item is expected to contribute (`expItem`, `expDoc`).  The theorems here say that the parser model
  (`parseBytes`, tied to `lib/keyfile.c`/`lib/helpers.c` by the correspondence check) returns exactly
  that, for **every** document of the grammar – any number of items, any lengths, any bytes the
  well-formedness predicates admit.

  Delimiter sets covered by the proof (`CfgWF`): every non-empty set without the line break and the
  quote – no blank among the delimiters (`=`, `:`, `=:`), only blanks (` `, ` \t`), or mixed (` =`); the
  three classes take different paths through `read_file` (`skipDelim_core`).  A last line without its
  line break is covered by `C02_no_final_newline` (and, for any line at all, `parseLine_noeol`).  The
  keys-only format (no delimiter at all, or the lone line break) has its own kind of line, `Item.keyonly`.
-/


namespace Econf

/-- the comment set `read_file` works with: `#` when none is given -/
def Cfg.eff (cfg : Cfg) : Cfg :=
  { cfg with comment := if cfg.comment.isEmpty then [0x23] else cfg.comment }

/-- **C02.**  Parsing the bytes of a conventional document yields exactly the expected state:
    the entries in file order with their section, key, value, quoting, comments and line number,
    and the sections in order of first appearance. -/
theorem C02_parse_render (cfg : Cfg) (doc : List Item) (hw : CfgWF cfg.eff) (h : ∀ it ∈ doc, it.WF cfg.eff) :
    parseBytes cfg (render doc) =
      .ok (if cfg.join then { expDoc doc with entries := joinSame (expDoc doc).entries } else expDoc doc) := by
  unfold parseBytes
  have h1 : splitLines (render doc) = renderLines doc := splitLines_render cfg.eff hw doc h
  have h2 := parse_doc cfg.eff hw doc {} h
  unfold Cfg.eff at h2
  simp only [h1, h2]
  rfl

/-- without `JOIN_SAME_ENTRIES` the result is the expected state itself -/
theorem C02_parse_render_plain (cfg : Cfg) (doc : List Item) (hw : CfgWF cfg.eff) (h : ∀ it ∈ doc, it.WF cfg.eff)
    (hj : cfg.join = false) : parseBytes cfg (render doc) = .ok (expDoc doc) := by
  rw [C02_parse_render cfg doc hw h, hj]; rfl

/-- the same for the decidable form of the hypotheses: what the model driver evaluates (`--docwf`) on
    every document the correspondence run generates -/
theorem C02_in_domain (cfg : Cfg) (doc : List Item) (h : docInDomain cfg.eff doc = true) (hj : cfg.join = false) :
    parseBytes cfg (render doc) = .ok (expDoc doc) := by
  unfold docInDomain at h
  simp only [Bool.and_eq_true, decide_eq_true_eq, List.all_eq_true] at h
  exact C02_parse_render_plain cfg doc h.1 h.2 hj

/-! ### the expected state in plain terms

`expItem` is written with the parser's storing functions; the theorems below unfold it for an entry
item into the record a reader of the file expects. -/

/-- value of an entry with continuation lines: every continuation line, as written, is appended
    behind a line break -/
def contValue (v : Option Str) (conts : List ContLine) : Option Str :=
  conts.foldl (fun v l => some (nlCat (v.getD []) l.render)) v

theorem trimKey_id (key : Str) (hlast : ∀ c, key.getLast? = some c → isSpace c = false) : trimKey key = key := by
  cases key with
  | nil => rfl
  | cons k ks =>
    rw [trimKey, dropLastWhile_of_getLast? _ ks (fun c hc => hlast c (by
      cases ks with
      | nil => cases hc
      | cons y ys => rw [List.getLast?_cons_cons]; exact hc))]

theorem trimKey_key (cfg : Cfg) (e : EntryI) (h : e.WF cfg) : trimKey e.key = e.key :=
  trimKey_id e.key (fun c hc => (h.keyCh c (List.mem_of_getLast? hc)).2.1)

theorem conts_fold (conts : List ContLine) (s : PState) (pre : List Entry) (x : Entry)
    (he : s.entries = pre ++ [x]) (hca : s.ca = none) (hcb : s.cb = none) (hxl : x.line = s.line) :
    conts.foldl (fun s l => storeAppend false { s with line := s.line + 1 } l.render) s =
      { s with
        entries := pre ++ [{ x with value := contValue x.value conts,
                                    ca := x.ca.map (· ++ List.replicate conts.length NL),
                                    line := s.line + conts.length }]
        line := s.line + conts.length } := by
  induction conts generalizing s x with
  | nil =>
    have : x.ca.map (· ++ List.replicate 0 NL) = x.ca := by cases x.ca <;> simp
    simp only [List.foldl_nil, contValue, List.length_nil, this, Nat.add_zero]
    cases s; cases x
    subst hxl he
    rfl
  | cons l ls ih =>
    rw [List.foldl_cons]
    have hstep : storeAppend false { s with line := s.line + 1 } l.render =
        { s with entries := pre ++ [{ x with value := some (nlCat (x.value.getD []) l.render),
                                             ca := x.ca.map (· ++ [NL]), line := s.line + 1 }],
                 line := s.line + 1, cb := none, ca := none } := by
      unfold storeAppend
      simp only [he, List.dropLast_concat, appendToEntry, hca, Bool.false_eq_true, if_false]
      cases hx : x.ca <;> simp [nlCat, hx]
    rw [hstep, ih _ _ rfl rfl rfl rfl]
    have hrep : ∀ (a : Str), (a ++ [NL]) ++ List.replicate ls.length NL = a ++ List.replicate (ls.length + 1) NL := by
      intro a; rw [List.append_assoc, List.replicate_succ]; rfl
    have hm : (x.ca.map (· ++ [NL])).map (· ++ List.replicate ls.length NL) = x.ca.map (· ++ List.replicate (ls.length + 1) NL) := by
      cases x.ca with
      | none => rfl
      | some a => simp only [Option.map_some, hrep]
    simp only [contValue, List.foldl_cons, List.length_cons, hm, hca, hcb, Nat.add_assoc, Nat.add_comm 1]

/-- **C02, entry items in plain terms.**  An entry item contributes one entry: the section open at
    that point (or the no-section marker), the key as written, the expected value followed by the
    continuation lines, the pending comment lines before it, the trailing comment of its line (one
    line break added per continuation line), the number of its last line, and whether the value was
    quoted. -/
theorem C02_entry_item (cfg : Cfg) (st : PState) (e : EntryI) (h : e.WF cfg) :
    expItem st (.entry e) =
      { st with
        entries := st.entries ++ [{
          group := st.curGroup.getD NONE
          key := e.key
          value := contValue e.expValue.1 e.cont
          cb := st.cb
          ca := (caWith st.ca e.tc).map (· ++ List.replicate e.cont.length NL)
          line := st.line + 1 + e.cont.length
          quotes := e.expValue.2 }]
        groups := addGroup st.groups (st.curGroup.getD NONE)
        cb := none
        ca := none
        line := st.line + 1 + e.cont.length } := by
  simp only [expItem]
  rw [conts_fold e.cont _ st.entries _ rfl rfl rfl rfl]
  simp only [storeNew, trimKey_key cfg e h]


/-- **C02, keys-only lines in plain terms.**  A line of the keys-only format contributes one entry
    without value: the section open at that point, the whole text of the line as key. -/
theorem C02_keyonly_item (cfg : Cfg) (st : PState) (ind key trail : Str) (tc : Option TrailC)
    (h : (Item.keyonly ind key trail tc).WF cfg) :
    expItem st (.keyonly ind key trail tc) =
      { st with
        entries := st.entries ++ [{
          group := st.curGroup.getD NONE
          key := key
          value := none
          cb := st.cb
          ca := caWith st.ca tc
          line := st.line + 1
          quotes := false }]
        groups := addGroup st.groups (st.curGroup.getD NONE)
        cb := none
        ca := none
        line := st.line + 1 } := by
  obtain ⟨_, _, _, _, _, _, hlast, _⟩ := h
  have htrim : trimKey key = key := trimKey_id key hlast
  simp only [expItem, storeNew, htrim]

/-! ### a last line without line break -/

theorem lineBody_noeol (t : Str) (h : texts t) : lineBody t = lineBody (t ++ [NL]) := by
  rw [lineBody_eq, lineBody_eq, cstr_texts t h, cstr_line t h, chomp_snoc, chomp_of_not_mem t (text_ne_NL h)]

theorem takeWhile_snoc {α} (p : α → Bool) (o : List α) (a : α) :
    (o ++ [a]).takeWhile p = o.takeWhile p ∨ (o ++ [a]).takeWhile p = o.takeWhile p ++ [a] := by
  induction o with
  | nil => cases h : p a <;> simp [h]
  | cons x o ih =>
    cases h : p x
    · left; simp [h]
    · rcases ih with ih | ih
      · left; simp [h, ih]
      · right; simp [h, ih]

/-- cutting a text at the first occurrence of each of the bytes `ks` in turn: a last byte `a` survives or is cut
    off, the rest is cut as without it -/
theorem cut_snoc (ks o : Str) (a : Byte) :
    ks.foldl (fun o c => o.takeWhile (· != c)) (o ++ [a]) = ks.foldl (fun o c => o.takeWhile (· != c)) o ∨
    ks.foldl (fun o c => o.takeWhile (· != c)) (o ++ [a]) = ks.foldl (fun o c => o.takeWhile (· != c)) o ++ [a] := by
  induction ks generalizing o with
  | nil => right; rfl
  | cons k ks ih =>
    simp only [List.foldl_cons]
    rcases takeWhile_snoc (· != k) o a with h | h
    · left; rw [h]
    · rw [h]; exact ih _

theorem mem_cut (ks o : Str) (x : Byte) (h : x ∈ ks.foldl (fun o c => o.takeWhile (· != c)) o) : x ∈ o := by
  induction ks generalizing o with
  | nil => exact h
  | cons k ks ih => exact (List.takeWhile_sublist _).subset (ih _ h)

theorem contText_noeol (py : Bool) (cm t : Str) (h : texts t) :
    contText py cm (t ++ [NL]) = contText py cm t := by
  have hn := text_ne_NL h
  rw [contText_eq, contText_eq]
  cases py
  · simp only [Bool.false_eq_true, if_false]
    rcases cut_snoc cm t NL with h1 | h1
    · rw [h1]
    · rw [h1, chomp_snoc, chomp_of_not_mem _ (fun hh => hn (mem_cut cm t NL hh))]
  · simp only [if_true]
    rw [chomp_snoc, chomp_of_not_mem t hn]


theorem isContinuation_org (cfg : Cfg) (st : PState) (o1 o2 : Str) (ds : Bool) (data : Str) (h : o1.head? = o2.head?) :
    isContinuation cfg st o1 ds data = isContinuation cfg st o2 ds data := by
  unfold isContinuation
  cases o1 with
  | nil => cases o2 with
    | nil => rfl
    | cons b bs => simp at h
  | cons a as => cases o2 with
    | nil => simp at h
    | cons b bs => simp only [List.head?_cons, Option.some.injEq] at h; subst h; rfl

theorem parseContent_org (cfg : Cfg) (st : PState) (o1 o2 name : Str) (h : o1.head? = o2.head?)
    (hc : contText cfg.python cfg.comment o1 = contText cfg.python cfg.comment o2) :
    parseContent cfg st o1 name = parseContent cfg st o2 name := by
  unfold parseContent
  cases name with
  | nil => rfl
  | cons m0 mrest =>
    split
    · rfl
    · split
      · rfl
      · unfold parseEntry
        simp only [isContinuation_org cfg st o1 o2 _ _ h, hc]

set_option linter.unusedVariables false in
/-- **a line reads the same with and without its line break** (every state, every line of text) -/
theorem parseLine_noeol (cfg : Cfg) (st : PState) (t : Str) (ht : texts t) (hne : t ≠ []) (hcm : NL ∉ cfg.comment) :
    parseLine cfg st t = parseLine cfg st (t ++ [NL]) := by
  unfold parseLine
  rw [← lineBody_noeol t ht, cstr_texts t ht, cstr_line t ht]
  cases lineBody t with
  | nil => rfl
  | cons n0 nrest =>
    simp only
    split
    · rfl
    · apply parseContent_org
      · cases t with
        | nil => exact absurd rfl hne
        | cons a as => rfl
      · exact (contText_noeol cfg.python cfg.comment t ht).symm

theorem splitLines_noeol (ls : List Str) (t : Str) (h : ∀ l ∈ ls, IsLine l) (ht : texts t) (hne : t ≠ []) :
    splitLines (ls.flatten ++ t) = ls ++ [t] := by
  rw [splitLines_lines_append ls t h]
  congr 1
  -- one line without line break
  have : ∀ t : Str, NL ∉ t → t ≠ [] → splitLines t = [t] := by
    intro t
    induction t with
    | nil => intro _ h; exact absurd rfl h
    | cons a as ih =>
      intro hn _
      have ha : (a == NL) = false := by
        cases hc : a == NL
        · rfl
        · have : a = NL := by simpa using hc
          exact absurd (by rw [this]; simp) hn
      unfold splitLines
      simp only [ha, Bool.false_eq_true, if_false]
      cases as with
      | nil => simp [splitLines]
      | cons b bs =>
        rw [ih (fun hh => hn (List.mem_cons_of_mem _ hh)) (by simp)]
  exact this t (text_ne_NL ht) hne


theorem parseLines_snoc (cfg : Cfg) (st S : PState) (L0 : List Str) (last : Str)
    (h : parseLines cfg st (L0 ++ [last]) = .ok S) :
    ∃ S0, parseLines cfg st L0 = .ok S0 ∧ parseLine cfg S0 last = .ok S := by
  rw [parseLines_append] at h
  cases h0 : parseLines cfg st L0 with
  | error e => rw [h0] at h; cases h
  | ok S0 =>
    rw [h0] at h
    simp only [parseLines] at h
    cases h1 : parseLine cfg S0 last with
    | error e => rw [h1] at h; cases h
    | ok S1 => rw [h1] at h; simp only [Except.ok.injEq] at h; subst h; exact ⟨S0, rfl, h1⟩

theorem parseBytes_of_lines (cfg : Cfg) (content : Str) (st : PState)
    (h : parseLines cfg.eff {} (splitLines content) = .ok st) (hj : cfg.join = false) : parseBytes cfg content = .ok st := by
  unfold parseBytes
  unfold Cfg.eff at h
  rw [hj] at h
  simp only [hj, h, Bool.false_eq_true, if_false]

/-- **C02 without the final line break**: the file whose last line lost its line break parses to the
    same entries and sections (exactly the same state when that last line is not empty) -/
theorem C02_no_final_newline (cfg : Cfg) (doc : List Item) (hw : CfgWF cfg.eff) (h : ∀ it ∈ doc, it.WF cfg.eff)
    (hj : cfg.join = false) (hne : doc ≠ []) :
    ∃ st, parseBytes cfg (render doc).dropLast = .ok st ∧
      st.entries = (expDoc doc).entries ∧ st.groups = (expDoc doc).groups ∧ st.curGroup = (expDoc doc).curGroup := by
  have hlines := lines_of_doc cfg.eff hw doc h
  have hp := parse_doc cfg.eff hw doc {} h
  have hLne : renderLines doc ≠ [] := by
    cases doc with
    | nil => exact absurd rfl hne
    | cons it its =>
      unfold renderLines
      rw [List.flatMap_cons]
      cases it <;> exact List.cons_ne_nil _ _
  rcases List.eq_nil_or_concat (renderLines doc) with hnil | ⟨L0, last, hL⟩
  · exact absurd hnil hLne
  rw [List.concat_eq_append] at hL
  obtain ⟨t, rfl, ht⟩ := hlines last (by rw [hL]; simp)
  have hL0 : ∀ l ∈ L0, IsLine l := fun l hl => hlines l (by rw [hL]; simp [hl])
  rw [hL] at hp
  obtain ⟨S0, hp0, hp1⟩ := parseLines_snoc cfg.eff {} _ L0 _ hp
  have hcm : NL ∉ cfg.eff.comment := fun hh => by
    have := hw.kb NL hh; simp [isSpace, NL] at this
  have hrender : (render doc).dropLast = L0.flatten ++ t := by
    unfold render
    rw [hL, List.flatten_append, List.flatten_cons, List.flatten_nil, List.append_nil, ← List.append_assoc, List.dropLast_concat]
  rw [hrender]
  by_cases hte : t = []
  · subst hte
    have hblank := parseLine_blank cfg.eff S0 ([] ++ [NL]) rfl
    rw [hblank] at hp1
    simp only [Except.ok.injEq] at hp1
    refine ⟨S0, parseBytes_of_lines cfg _ S0 (by rw [List.append_nil, splitLines_lines L0 hL0]; exact hp0) hj, ?_, ?_, ?_⟩ <;>
      (unfold expDoc; rw [← hp1])
  · have hpl : parseLines cfg.eff {} (L0 ++ [t]) = .ok (expDoc doc) := by
      rw [parseLines_append, hp0]
      simp only [parseLines, parseLine_noeol cfg.eff S0 t ht hte hcm, hp1]
      rfl
    exact ⟨_, parseBytes_of_lines cfg _ _ (by rw [splitLines_noeol L0 t hL0 ht hte]; exact hpl) hj, rfl, rfl, rfl⟩


/-! ### the hypotheses are satisfiable: a concrete document of the grammar -/

def exCfg : Cfg := { delim := [0x3d], comment := [] }
def exEntry1 : EntryI :=
  { indent := [0x20], key := [0x6b], ws1 := [0x20], d := 0x3d, ws2 := [0x20],
    value := .quoted [0x61, 0x20, 0x23, 0x20, 0x62], tws := [0x20],
    tc := some { c := 0x23, text := [0x20, 0x74] },
    cont := [{ indent := [0x09], text := [0x6d, 0x6f, 0x20, 0x72, 0x65], trail := [0x20] }] }
def exEntry2 : EntryI :=
  { indent := [], key := [0x65], ws1 := [], d := 0x3d, ws2 := [], value := .plain [], tws := [], tc := none, cont := [] }
def exDoc : List Item :=
  [ .comment [] 0x23 [0x20, 0x6c], .blank [0x20], .sect [] [0x53] [0x20] none, .entry exEntry1, .entry exEntry2 ]

theorem exCfg_wf : CfgWF exCfg.eff := by decide

theorem exDoc_wf : ∀ it ∈ exDoc, it.WF exCfg.eff := by decide

example : (expDoc exDoc).entries.map (fun e => (e.group, e.key, e.value, e.quotes, e.line)) =
    [([0x53], [0x6b], some [0x61, 0x20, 0x23, 0x20, 0x62, 0x0a, 0x09, 0x6d, 0x6f, 0x20, 0x72, 0x65, 0x20], true, 5),
     ([0x53], [0x65], none, false, 6)] := by decide

/-- the concrete document, through the theorem -/
example : parseBytes exCfg (render exDoc) = .ok (expDoc exDoc) :=
  C02_parse_render_plain exCfg exDoc exCfg_wf exDoc_wf rfl

/-- the concrete document without its final line break -/
example : ∃ st, parseBytes exCfg (render exDoc).dropLast = .ok st ∧ st.entries = (expDoc exDoc).entries ∧
    st.groups = (expDoc exDoc).groups ∧ st.curGroup = (expDoc exDoc).curGroup :=
  C02_no_final_newline exCfg exDoc exCfg_wf exDoc_wf rfl (by decide)

/-! ### the other delimiter classes

`key value` under the blank delimiter set `" \t"` (separator: a tab that is a delimiter, then blanks), and
`a = 1` / `b 2` under the mixed set `" ="` (in that class any blank separates). -/

def exCfgB : Cfg := { delim := [0x20, 0x09], comment := [0x23] }
def exDocB : List Item :=
  [ .entry { indent := [], key := [0x6b, 0x65, 0x79], ws1 := [], d := 0x09, ws2 := [0x20], value := .plain [0x76, 0x61, 0x6c], tws := [],
             tc := some { c := 0x23, text := [0x63] }, cont := [] },
    .entry { indent := [0x20], key := [0x71], ws1 := [0x0b], d := 0x20, ws2 := [], value := .quoted [0x61, 0x20, 0x62], tws := [0x20], tc := none, cont := [] } ]

theorem exCfgB_wf : CfgWF exCfgB.eff := by decide

theorem exDocB_wf : ∀ it ∈ exDocB, it.WF exCfgB.eff := by decide

example : parseBytes exCfgB (render exDocB) = .ok (expDoc exDocB) :=
  C02_parse_render_plain exCfgB exDocB exCfgB_wf exDocB_wf rfl

example : (expDoc exDocB).entries.map (fun e => (e.key, e.value, e.quotes, e.ca)) =
    [([0x6b, 0x65, 0x79], some [0x76, 0x61, 0x6c], false, some [0x63]), ([0x71], some [0x61, 0x20, 0x62], true, none)] := by decide

def exCfgM : Cfg := { delim := [0x20, 0x3d], comment := [0x23] }
def exDocM : List Item :=
  [ .entry { indent := [], key := [0x61], ws1 := [0x20], d := 0x3d, ws2 := [0x20], value := .plain [0x31], tws := [], tc := none, cont := [] },
    .entry { indent := [], key := [0x62], ws1 := [], d := 0x09, ws2 := [], value := .plain [0x32], tws := [], tc := none, cont := [] },
    .entry { indent := [], key := [0x63], ws1 := [], d := 0x3d, ws2 := [], value := .plain [], tws := [], tc := none, cont := [] } ]

theorem exCfgM_wf : CfgWF exCfgM.eff := by decide

theorem exDocM_wf : ∀ it ∈ exDocM, it.WF exCfgM.eff := by decide

example : parseBytes exCfgM (render exDocM) = .ok (expDoc exDocM) :=
  C02_parse_render_plain exCfgM exDocM exCfgM_wf exDocM_wf rfl

example : (expDoc exDocM).entries.map (fun e => (e.key, e.value)) = [([0x61], some [0x31]), ([0x62], some [0x32]), ([0x63], none)] := by decide

/-! ### the keys-only format (no delimiter at all) -/

def exCfgK : Cfg := { delim := [], comment := [0x23] }
def exDocK : List Item :=
  [ .comment [] 0x23 [0x20, 0x78], .sect [] [0x53] [] none,
    .keyonly [0x20] [0x74, 0x77, 0x6f, 0x20, 0x77, 0x6f, 0x72, 0x64, 0x73] [0x20, 0x09] (some { c := 0x23, text := [0x74] }),
    .keyonly [] [0x6b] [] none ]

theorem exCfgK_wf : CfgWF exCfgK.eff := by decide

theorem exDocK_wf : ∀ it ∈ exDocK, it.WF exCfgK.eff := by decide

example : parseBytes exCfgK (render exDocK) = .ok (expDoc exDocK) :=
  C02_parse_render_plain exCfgK exDocK exCfgK_wf exDocK_wf rfl

example : (expDoc exDocK).entries.map (fun e => (e.group, e.key, e.value, e.ca, e.line)) =
    [([0x53], [0x74, 0x77, 0x6f, 0x20, 0x77, 0x6f, 0x72, 0x64, 0x73], none, some [0x74], 3), ([0x53], [0x6b], none, none, 4)] := by decide

end Econf
