import Generated.Facts

/-!
  Theorems over the facts re-extracted from /repo's C sources on every run
  (`gen/extract_facts.py` → `Generated/Facts.lean`).  They are phrased on pinned tables: when the
  source changes one of these facts, the corresponding equation no longer holds by evaluation and the check
  of the property that relies on the fact reports it.
-/

namespace Econf.Struct
open Generated

/-- the documented codes (include/libeconf.h) in order, with their documented messages -/
def documentedErrors : List (String × Nat × String) := [
  ("ECONF_SUCCESS", 0, "Success"), ("ECONF_ERROR", 1, "Unknown error"), ("ECONF_NOMEM", 2, "Out of memory"),
  ("ECONF_NOFILE", 3, "Configuration file not found"), ("ECONF_NOGROUP", 4, "Group not found"), ("ECONF_NOKEY", 5, "Key not found"),
  ("ECONF_EMPTYKEY", 6, "Key is NULL or has empty value"), ("ECONF_WRITEERROR", 7, "Error creating or writing to a file"),
  ("ECONF_PARSE_ERROR", 8, "Parse error"), ("ECONF_MISSING_BRACKET", 9, "Missing bracket"),
  ("ECONF_MISSING_DELIMITER", 10, "Missing delimiter"), ("ECONF_EMPTY_SECTION_NAME", 11, "Empty section name"),
  ("ECONF_TEXT_AFTER_SECTION", 12, "Text after section"), ("ECONF_FILE_LIST_IS_NULL", 13, "Conf file list is NULL"),
  ("ECONF_WRONG_BOOLEAN_VALUE", 14, "Wrong boolean value (1/0 true/false yes/no)"),
  ("ECONF_KEY_HAS_NULL_VALUE", 15, "Given key has NULL value"), ("ECONF_WRONG_OWNER", 16, "File has wrong owner"),
  ("ECONF_WRONG_GROUP", 17, "File has wrong group"), ("ECONF_WRONG_FILE_PERMISSION", 18, "File has wrong file permissions"),
  ("ECONF_WRONG_DIR_PERMISSION", 19, "File has wrong dir permissions"),
  ("ECONF_ERROR_FILE_IS_SYM_LINK", 20, "File is a sym link which is not permitted"),
  ("ECONF_PARSING_CALLBACK_FAILED", 21, "User defined parsing callback has failed"),
  ("ECONF_ARGUMENT_IS_NULL_VALUE", 22, "Given argument is NULL"), ("ECONF_OPTION_NOT_FOUND", 23, "Given option not found"),
  ("ECONF_VALUE_CONVERSION_ERROR", 24, "Value cannot be converted")]

/-- the extracted enum is the documented one (names and values 0..24 in order) and the extracted
    message table has one entry per constant, in enum order, with the documented text -/
theorem C13_messages :
    errEnum = documentedErrors.map (fun e => (e.1, e.2.1)) ∧ errMessages = documentedErrors.map (fun e => e.2.2) := ⟨rfl, rfl⟩

/-- each integer setter prints with the conversion of exactly its width and signedness, the floating
    setters with `%.*g` and 9 / 17 significant digits (`FLT_DECIMAL_DIG` / `DBL_DECIMAL_DIG`); each
    getter uses the `strto*` function of its type, base 0 for the integers -/
theorem C08_formats :
    setterFormats = [⟨"setDoubleValueNum", "%.*g", some 17⟩, ⟨"setFloatValueNum", "%.*g", some 9⟩, ⟨"setInt64ValueNum", "%ld", none⟩,
                     ⟨"setIntValueNum", "%d", none⟩, ⟨"setUInt64ValueNum", "%lu", none⟩, ⟨"setUIntValueNum", "%u", none⟩] ∧
    getterConversions = [⟨"getDoubleValueNum", "strtod", none⟩, ⟨"getFloatValueNum", "strtof", none⟩, ⟨"getInt64ValueNum", "strtoll", some 0⟩,
                         ⟨"getIntValueNum", "strtol", some 0⟩, ⟨"getUInt64ValueNum", "strtoull", some 0⟩, ⟨"getUIntValueNum", "strtoul", some 0⟩] := ⟨rfl, rfl⟩

def isLib (file : String) : Bool := file != "econftool.c"

/-- the library has exactly these fixed-size arrays (a new one has to be looked at), every call that
    writes into one of them is length-bounded, and econftool's unbounded writes are the three known
    ones (two 3-byte answer buffers filled with "", the home directory of the passwd entry) -/
theorem C14_fixed_buffers :
    (fixedArrays.filter (fun a => isLib a.file)).map (fun a => (a.file, a.func, a.name, a.size)) =
      [("econf_error.c", "", "messages", 25), ("econf_error.c", "econf_errString", "buffer", 1024),
       ("getfilecontents.c", "", "last_scanned_filename", 4096), ("helpers.c", "get_absolute_path", "buffer", 4096),
       ("libeconf.c", "econf_readConfigWithCallback", "etc_dir", 4096), ("libeconf.c", "econf_readConfigWithCallback", "run_dir", 4096),
       ("libeconf.c", "econf_readConfigWithCallback", "usr_dir", 4096)] ∧
    (arrayWrites.filter (fun w => isLib w.file)).all (fun w => w.bounded) = true ∧
    ((arrayWrites.filter (fun w => !isLib w.file && !w.bounded)).map (fun w => (w.func, w.target, w.call))) =
      [("econf_edit", "input", "strcpy"), ("econf_revert", "input", "strcpy"), ("main", "home_dir", "strcpy")] := ⟨rfl, rfl, rfl⟩

/-- objects with static storage that the library writes and that are not thread-local are exactly:
    the last-error-location record, the process-wide drop-in directory list, and the security
    settings — the documented process-wide state.  (The unknown-error-code buffer is thread-local.) -/
theorem C18_globals :
    ((statics.filter (fun s => !s.isConst && !s.threadLocal && s.written)).map (fun s => (s.file, s.name))) =
      [("getfilecontents.c", "allow_follow_symlinks"), ("getfilecontents.c", "file_group"), ("getfilecontents.c", "file_group_set"),
       ("getfilecontents.c", "file_owner"), ("getfilecontents.c", "file_owner_set"), ("getfilecontents.c", "file_permissions_set"),
       ("getfilecontents.c", "file_perms_dir"), ("getfilecontents.c", "file_perms_file"),
       ("getfilecontents.c", "last_scanned_filename"), ("getfilecontents.c", "last_scanned_line_nr"),
       ("libeconf.c", "conf_count"), ("libeconf.c", "conf_dirs")] ∧
    -- nothing with static storage exists that is neither constant, thread-local, nor in the list above
    (statics.filter (fun s => !s.isConst && !s.threadLocal && !s.written)).length = 0 := ⟨rfl, rfl⟩

end Econf.Struct
