import Econf.Props.C01
import Econf.Props.C02
import Econf.Props.C03
import Econf.Props.C04
import Econf.Props.C05
import Econf.Props.C06
import Econf.Props.C07
import Econf.Props.C08
import Econf.Props.C09
import Econf.Props.C10
import Econf.Props.C11
import Econf.Props.C12
import Econf.Props.C13
import Econf.Props.C14
import Econf.Props.C15
import Econf.Props.C16
import Econf.Props.C17
import Econf.Props.C18
import Econf.Props.C19
import Econf.Props.C20
import Econf.Props.Struct
import Econf.Props.Tie
import Econf.Props.Leaf
import Econf.Props.LeafKf
import Econf.Props.LeafGl
import Econf.Props.LeafMerge
import Econf.Props.LeafAddNew
import Econf.Props.LeafMergeEx
import Econf.Props.LeafMergeAll
import Econf.Props.LeafMergeFiles
import Econf.Props.LeafGetters
import Econf.Props.LeafGetKeys
