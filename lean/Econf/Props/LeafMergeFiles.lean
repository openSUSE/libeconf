import Econf.Props.LeafMergeAll

/-!
  # `econf_mergeFiles` (lib/libeconf.c) on the generated term

  The caller of the three merge steps: it checks its arguments, allocates the merged object (`calloc`: every member zero, `groups == NULL`),
  copies delimiter and comment of the base, allocates the entry array for `etc->length + usr->length` entries, runs `insert_nogroup`,
  `merge_existing_groups`, `add_new_groups` (`C_merge3_fresh`), and stores count and array in the object.
-/
open MiniC Leaf LeafKf
namespace LeafKf

def mfObj : Expr := .load (.slot (.load (.var 0) .ptr) 0) .ptr
def mfSet (k : Nat) (e : Expr) (ty : Ty) : Stmt := .expr (.assign (.slot mfObj k) e ty)
def mfZ (ty : Ty) : Expr := .cast ty (.lit 0 .i32)
def mfSize : Expr := .bin .mul (.bin .add (.load (.slot (.load (.var 2) .ptr) 1) .u64) (.load (.slot (.load (.var 1) .ptr) 1) .u64) .u64) (.lit 7 .u64) .u64
def mfArgs4 : Args := .cons mfObj (.cons (.load (.var 3) .ptr) (.cons (.load (.var 1) .ptr) (.cons (.load (.var 2) .ptr) .nil)))
def mfArgs5 : Args := .cons mfObj (.cons (.load (.var 3) .ptr) (.cons (.load (.var 1) .ptr) (.cons (.load (.var 2) .ptr) (.cons (.load (.var 4) .u64) .nil))))
def mfFree : Stmt := .seq (.expr (.call "free" (.cons mfObj .nil))) (.seq (.expr (.assign (.slot (.load (.var 0) .ptr) 0) .null .ptr)) (.ret (some (.cast .u32 (.lit 2 .i32)))))

/-- from the three calls to the end -/
def mfMerge : Stmt :=
  .seq (.inl (some (.var 4)) .u64 mfArgs4 9 LeafFns.insert_nogroup.body)
    (.seq (.inl (some (.var 4)) .u64 mfArgs5 15 LeafFns.merge_existing_groups.body)
      (.seq (.inl (some (.var 4)) .u64 mfArgs5 10 LeafFns.add_new_groups.body)
        (.seq (mfSet 1 (.load (.var 4) .u64) .u64) (.seq (mfSet 2 (.load (.var 4) .u64) .u64)
          (.seq (mfSet 0 (.load (.slot (.load (.var 3) .ptr) 0) .ptr) .ptr) (.ret (some (.cast .u32 (.lit 0 .i32)))))))))

/-- from the copy of delimiter and comment on -/
def mfFill : Stmt :=
  .seq (mfSet 3 (.load (.slot (.load (.var 1) .ptr) 3) .i8) .i8) (.seq (mfSet 4 (.load (.slot (.load (.var 1) .ptr) 4) .i8) .i8) (.seq (mfSet 6 .null .ptr)
    (.seq (.expr (.assign (.var 3) (.call "alloca_words" (.cons (.lit 1 .u64) .nil)) .ptr))
      (.seq (.expr (.assign (.slot (.load (.var 3) .ptr) 0) (.call "malloc_words" (.cons mfSize .nil)) .ptr))
        (.seq (.ite (.bin .eq (.load (.slot (.load (.var 3) .ptr) 0) .ptr) .null .i32) mfFree .skip)
          (.seq (.expr (.assign (.var 4) (.cast .u64 (.lit 0 .i32)) .u64)) mfMerge))))))

/-- the member-wise initialisation of the new object (`calloc`) -/
def mfZero (rest : Stmt) : Stmt :=
  .seq (mfSet 0 .null .ptr) (.seq (mfSet 1 (mfZ .u64) .u64) (.seq (mfSet 2 (mfZ .u64) .u64) (.seq (mfSet 3 (mfZ .i8) .i8) (.seq (mfSet 4 (mfZ .i8) .i8)
    (.seq (mfSet 5 (mfZ .bool) .bool) (.seq (mfSet 6 .null .ptr) (.seq (mfSet 7 (mfZ .bool) .bool) (.seq (mfSet 8 (mfZ .bool) .bool) (.seq (mfSet 9 .null .ptr)
      (.seq (mfSet 10 (mfZ .i32) .i32) (.seq (mfSet 11 .null .ptr) (.seq (mfSet 12 (mfZ .i32) .i32) (.seq (mfSet 13 .null .ptr) (.seq (mfSet 14 (mfZ .i32) .i32)
        (.seq (mfSet 15 .null .ptr) rest)))))))))))))))

theorem econf_mergeFiles_shape : LeafFns.econf_mergeFiles.body =
    .seq (.ite (.bin .eq (.load (.var 0) .ptr) .null .i32) (.ret (some (.cast .u32 (.lit 1 .i32)))) .skip)
      (.seq (.ite (.lor (.bin .eq (.load (.var 1) .ptr) .null .i32) (.bin .eq (.load (.var 2) .ptr) .null .i32))
          (.seq (.expr (.assign (.slot (.load (.var 0) .ptr) 0) .null .ptr)) (.ret (some (.cast .u32 (.lit 1 .i32))))) .skip)
        (.seq (.expr (.assign (.slot (.load (.var 0) .ptr) 0) (.call "malloc_words" (.cons (.lit 16 .u64) .nil)) .ptr))
          (mfZero (.seq (.ite (.bin .eq mfObj .null .i32) (.ret (some (.cast .u32 (.lit 2 .i32)))) .skip)
            (.seq (.dowhile .skip (.lit 0 .i32)) mfFill))))) := rfl


/-- `merged_file == NULL`: error code 1 (`ECONF_ERROR`), nothing is touched -/
theorem C_econf_mergeFiles_null_dest (fuel : Nat) (m : Mem) (a1 a2 a3 a4 : Val) :
    exec fuel LeafFns.econf_mergeFiles.body { mem := m, loc := [.null, a1, a2, a3, a4] } =
      .ret (.int 1) { mem := m, loc := [.null, a1, a2, a3, a4] } := by
  rw [econf_mergeFiles_shape]
  exact exec_seq_ret (by
    rw [exec_ite_true (testOf_null (evalE_var (v := 0) (ty := .ptr) (st := ⟨m, [.null, a1, a2, a3, a4]⟩) (w := .null) rfl (by simp))).1]
    exact exec_ret_u32 fuel 1 (by omega) (by omega) _)

/-- `usr_file == NULL` or `etc_file == NULL`: `*merged_file = NULL`, error code 1 -/
theorem C_econf_mergeFiles_null (fuel : Nat) (m : Mem) (pr : Nat) (pblk : Block) (a1 a2 a3 a4 : Val)
    (hp1 : m[pr]? = some pblk) (hp2 : pblk.live = true) (hp3 : pblk.writable = true) (hp4 : 0 < pblk.slots.length)
    (h : a1 = .null ∨ (∃ b o, a1 = .ptr b o) ∧ a2 = .null) :
    exec fuel LeafFns.econf_mergeFiles.body { mem := m, loc := [.ptr pr 0, a1, a2, a3, a4] } =
      .ret (.int 1) { mem := m.set pr { pblk with slots := pblk.slots.set 0 .null }, loc := [.ptr pr 0, a1, a2, a3, a4] } := by
  have ht2 : testOf (some (.lor (.bin .eq (.load (.var 1) .ptr) .null .i32) (.bin .eq (.load (.var 2) .ptr) .null .i32))) { mem := m, loc := [.ptr pr 0, a1, a2, a3, a4] } =
      .ok (true, { mem := m, loc := [.ptr pr 0, a1, a2, a3, a4] }) := by
    rcases h with rfl | ⟨⟨b, o, rfl⟩, rfl⟩ <;>
      simp [mc_eval, testOf, binop, boolVal, truth]
  have hS : exec fuel (.expr (.assign (.slot (.load (.var 0) .ptr) 0) .null .ptr)) { mem := m, loc := [.ptr pr 0, a1, a2, a3, a4] } =
      .normal { mem := m.set pr { pblk with slots := pblk.slots.set 0 .null }, loc := [.ptr pr 0, a1, a2, a3, a4] } :=
    exec_assign_slot (evalL_cell 0 m _ pr rfl) (evalE_null _) rfl (by simp) (storeSlot_of (i := 0) .null hp1 hp2 hp3 hp4)
  rw [econf_mergeFiles_shape, exec_seq_normal (exec_ite_null_skip fuel 0 pr _ m _ rfl)]
  exact exec_seq_ret (by rw [exec_ite_true ht2, exec_seq_normal hS]; exact exec_ret_u32 fuel 1 (by omega) (by omega) _)

/-- `*merged_file` once the cell points at block `L` -/
theorem mf_obj (mm : Mem) (loc : List Val) (pr L : Nat) (cblk : Block) (hl0 : loc[0]? = some (.ptr pr 0)) (hc : mm[pr]? = some cblk)
    (hlive : cblk.live = true) (h0 : cblk.slots[0]? = some (.ptr L 0)) :
    evalE mfObj { mem := mm, loc := loc } = .ok (.ptr L 0, { mem := mm, loc := loc }) := by
  have : mm.loadSlot pr 0 = .ok (.ptr L 0) := loadSlot_of (i := 0) hc hlive h0 (by simp)
  simp [mc_eval, mfObj, hl0, this]

/-- one member of the object the cell `*merged_file` points at is set -/
theorem mf_set (fuel : Nat) (mm : Mem) (loc : List Val) (bd k : Nat) (kb : Block) (e : Expr) (ty : Ty) (v0 v : Val)
    (hobj : evalE mfObj { mem := mm, loc := loc } = .ok (.ptr bd 0, { mem := mm, loc := loc }))
    (hb : mm[bd]? = some kb) (hK : kb.live = true) (hKw : kb.writable = true) (hk : k < kb.slots.length)
    (he : evalE e { mem := mm, loc := loc } = .ok (v0, { mem := mm, loc := loc })) (hc : convert ty v0 = .ok v) (hv : v ≠ .undef) :
    exec fuel (mfSet k e ty) { mem := mm, loc := loc } = .normal { mem := mm.set bd { kb with slots := kb.slots.set k v }, loc := loc } := by
  have hl : evalL (.slot mfObj k) { mem := mm, loc := loc } = .ok (.slot bd (k : Int), { mem := mm, loc := loc }) := by
    simp only [mc_eval, hobj, Int.zero_add]
  exact exec_assign_slot hl he hc hv (storeSlot_of (i := k) v hb hK hKw hk)

/-- a live, writable block of the words `sl` and no bytes: what `malloc_words` / `alloca_words` make -/
abbrev Kof (sl : List Val) : Block := { cells := [], slots := sl }

/-- … when the object is the last block of the memory -/
theorem mf_set_last (fuel : Nat) (a : Mem) (sl : List Val) (loc : List Val) (k : Nat) (e : Expr) (ty : Ty) (v0 v : Val)
    (hobj : ∀ K, evalE mfObj { mem := a ++ [K], loc := loc } = .ok (.ptr a.length 0, { mem := a ++ [K], loc := loc })) (hk : k < sl.length)
    (he : evalE e { mem := a ++ [Kof sl], loc := loc } = .ok (v0, { mem := a ++ [Kof sl], loc := loc })) (hc : convert ty v0 = .ok v) (hv : v ≠ .undef) :
    exec fuel (mfSet k e ty) { mem := a ++ [Kof sl], loc := loc } = .normal { mem := a ++ [Kof (sl.set k v)], loc := loc } := by
  have := mf_set fuel (a ++ [Kof sl]) loc a.length k (Kof sl) e ty v0 v (hobj _) (by simp) rfl rfl hk he hc hv
  rw [this, List.set_append_right _ _ (Nat.le_refl _), Nat.sub_self]
  rfl

theorem mf_set_null (fuel : Nat) (a : Mem) (sl : List Val) (loc : List Val) (k : Nat)
    (hobj : ∀ K, evalE mfObj { mem := a ++ [K], loc := loc } = .ok (.ptr a.length 0, { mem := a ++ [K], loc := loc })) (hk : k < sl.length) :
    exec fuel (mfSet k .null .ptr) { mem := a ++ [Kof sl], loc := loc } = .normal { mem := a ++ [Kof (sl.set k .null)], loc := loc } :=
  mf_set_last fuel a sl loc k .null .ptr .null .null hobj hk (evalE_null _) rfl (by simp)

theorem mf_set_zero (fuel : Nat) (a : Mem) (sl : List Val) (loc : List Val) (k : Nat) (ty : Ty)
    (hobj : ∀ K, evalE mfObj { mem := a ++ [K], loc := loc } = .ok (.ptr a.length 0, { mem := a ++ [K], loc := loc })) (hk : k < sl.length)
    (hcv : convert ty (.int 0) = .ok (.int 0)) :
    exec fuel (mfSet k (mfZ ty) ty) { mem := a ++ [Kof sl], loc := loc } = .normal { mem := a ++ [Kof (sl.set k (.int 0))], loc := loc } :=
  mf_set_last fuel a sl loc k (mfZ ty) ty (.int 0) (.int 0) hobj hk (by simp [mc_eval, mfZ, hcv]) hcv (by simp)

/-- the object `calloc` returns; here and in `mfSlots` one word per member of `struct econf_file` in the order of `LeafFns.records` (`file_entry`, `length`, `alloc_length`, `delimiter`, `comment`, …) -/
def mfZeroSlots : List Val := [.null, .int 0, .int 0, .int 0, .int 0, .int 0, .null, .int 0, .int 0, .null, .int 0, .null, .int 0, .null, .int 0, .null]

theorem mf_zero (fuel : Nat) (a : Mem) (loc : List Val) (rest : Stmt)
    (hobj : ∀ K, evalE mfObj { mem := a ++ [K], loc := loc } = .ok (.ptr a.length 0, { mem := a ++ [K], loc := loc })) :
    exec fuel (mfZero rest) { mem := a ++ [Kof (List.replicate 16 .undef)], loc := loc } = exec fuel rest { mem := a ++ [Kof mfZeroSlots], loc := loc } := by
  have c64 : convert .u64 (.int 0) = .ok (.int 0) := by simp [convert, show wrapTo .u64 0 = 0 from by decide]
  have c8 : convert .i8 (.int 0) = .ok (.int 0) := by simp [convert, show wrapTo .i8 0 = 0 from by decide]
  have cb : convert .bool (.int 0) = .ok (.int 0) := by simp [convert, show wrapTo .bool 0 = 0 from by decide]
  have c32 : convert .i32 (.int 0) = .ok (.int 0) := by simp [convert, show wrapTo .i32 0 = 0 from by decide]
  unfold mfZero
  rw [exec_seq_normal (mf_set_null fuel a _ loc 0 hobj (by decide)),
    exec_seq_normal (mf_set_zero fuel a _ loc 1 .u64 hobj (by decide) c64),
    exec_seq_normal (mf_set_zero fuel a _ loc 2 .u64 hobj (by decide) c64),
    exec_seq_normal (mf_set_zero fuel a _ loc 3 .i8 hobj (by decide) c8),
    exec_seq_normal (mf_set_zero fuel a _ loc 4 .i8 hobj (by decide) c8),
    exec_seq_normal (mf_set_zero fuel a _ loc 5 .bool hobj (by decide) cb),
    exec_seq_normal (mf_set_null fuel a _ loc 6 hobj (by decide)),
    exec_seq_normal (mf_set_zero fuel a _ loc 7 .bool hobj (by decide) cb),
    exec_seq_normal (mf_set_zero fuel a _ loc 8 .bool hobj (by decide) cb),
    exec_seq_normal (mf_set_null fuel a _ loc 9 hobj (by decide)),
    exec_seq_normal (mf_set_zero fuel a _ loc 10 .i32 hobj (by decide) c32),
    exec_seq_normal (mf_set_null fuel a _ loc 11 hobj (by decide)),
    exec_seq_normal (mf_set_zero fuel a _ loc 12 .i32 hobj (by decide) c32),
    exec_seq_normal (mf_set_null fuel a _ loc 13 hobj (by decide)),
    exec_seq_normal (mf_set_zero fuel a _ loc 14 .i32 hobj (by decide) c32),
    exec_seq_normal (mf_set_null fuel a _ loc 15 hobj (by decide))]
  rfl

/-- the words of the object other than `groups` and `group_count` are replaced: the group list stays -/
theorem GlMem.set_slots {m : Mem} {bk bl : Nat} {gl : List (Nat × List UInt8)} (h : GlMem m bk bl gl) (hne : gl ≠ [] → bk ≠ bl)
    {kb : Block} (hk : m[bk]? = some kb) (sl : List Val) (h13 : sl[13]? = kb.slots[13]?) (h14 : sl[14]? = kb.slots[14]?) :
    GlMem (m.set bk { kb with slots := sl }) bk bl gl := by
  have hnew : (m.set bk { kb with slots := sl })[bk]? = some { kb with slots := sl } := List.getElem?_set_self (List.getElem?_eq_some_iff.1 hk).1
  rcases h with hA | ⟨hg, hb, nb, n1, n2, n3, n4⟩
  · have hbl : bk ≠ bl := hA.ne hne
    obtain ⟨kb', k1, k2, k3, k4⟩ := hA.kf
    rw [hk] at k1; injection k1 with k1; subst k1
    obtain ⟨gb, g1, g2, g3, g4⟩ := hA.arr
    exact Or.inl ⟨⟨_, hnew, k2, h13.trans k3, h14.trans k4⟩,
      ⟨gb, by rw [set_other (Ne.symm hbl)]; exact g1, g2, g3, fun i hi => ⟨(g4 i hi).1, by rw [cstr_set_slots hk]; exact (g4 i hi).2⟩⟩⟩
  · rw [hk] at n1; injection n1 with n1; subst n1
    exact Or.inr ⟨hg, hb, _, hnew, n2, h13.trans n3, h14.trans n4⟩

/-- a member of the object other than `groups` and `group_count` is set: the group list stays -/
theorem GlMem.set_member {m : Mem} {bk bl : Nat} {gl : List (Nat × List UInt8)} (h : GlMem m bk bl gl) (hne : gl ≠ [] → bk ≠ bl)
    {kb : Block} (hk : m[bk]? = some kb) (k : Nat) (v : Val) (h13 : k ≠ 13) (h14 : k ≠ 14) :
    GlMem (m.set bk { kb with slots := kb.slots.set k v }) bk bl gl :=
  h.set_slots hne hk _ (List.getElem?_set_ne h13) (List.getElem?_set_ne h14)

/-- the members of the new object before the three calls: delimiter and comment of the base, everything else zero -/
def mfSlots (dl cm : Int) : List Val := [.null, .int 0, .int 0, .int dl, .int cm, .int 0, .null, .int 0, .int 0, .null, .int 0, .null, .int 0, .null, .int 0, .null]

/-- the caller's cell `*merged_file` once it points at the object in block `L` -/
def mfCell (pblk : Block) (L : Nat) : Block := { pblk with slots := pblk.slots.set 0 (.ptr L 0) }

theorem mfCell_slot0 (pblk : Block) (L : Nat) (hp4 : 0 < pblk.slots.length) : (mfCell pblk L).slots[0]? = some (.ptr L 0) := by
  simp [mfCell, hp4]

/-- the memory before the three calls: the caller's blocks (the cell updated), the new object, the local `fe`, the new entry array for `n` entries -/
def mfMem0 (m : Mem) (pr : Nat) (pblk : Block) (dl cm : Int) (n : Nat) : Mem :=
  m.set pr (mfCell pblk m.length) ++ [Kof (mfSlots dl cm)] ++ [Kof [.ptr (m.length + 2) 0]] ++ [Kof (List.replicate (7 * n) .undef)]

/-- `(etc_file->length + usr_file->length) * sizeof(struct file_entry)` in words -/
theorem mf_size (mm : Mem) (loc : List Val) (bu be nu ne : Nat) (hl1 : loc[1]? = some (.ptr bu 0)) (hl2 : loc[2]? = some (.ptr be 0))
    (hu : mm.loadSlot bu 1 = .ok (.int (nu : Int))) (he : mm.loadSlot be 1 = .ok (.int (ne : Int)))
    (hsz : ((ne + nu : Nat) : Int) * 7 < 18446744073709551616) :
    evalE mfSize { mem := mm, loc := loc } = .ok (.int ((7 * (ne + nu) : Nat) : Int), { mem := mm, loc := loc }) := by
  have w1 : wrapTo .u64 ((ne : Int) + (nu : Int)) = (ne : Int) + (nu : Int) := wrapTo_u64_small _ (by omega) (by omega)
  have w2 : wrapTo .u64 (((ne : Int) + (nu : Int)) * 7) = 7 * ((ne : Int) + (nu : Int)) := by
    rw [wrapTo_u64_small _ (by omega) (by omega)]; omega
  simp [mc_eval, mfSize, hl1, hl2, hu, he, binop, cmpInt, arith_u64, w1, w2]

/-- `econf_mergeFiles` up to the copy of delimiter and comment: the arguments are checked, the object is allocated (the new last block),
    the cell `*merged_file` points at it, its members are zero -/
theorem mf_calloc (fuel : Nat) (hfuel : 0 < fuel) (m : Mem) (loc : List Val) (pr bu be : Nat) (pblk : Block)
    (hl0 : loc[0]? = some (.ptr pr 0)) (hl1 : loc[1]? = some (.ptr bu 0)) (hl2 : loc[2]? = some (.ptr be 0))
    (hp1 : m[pr]? = some pblk) (hp2 : pblk.live = true) (hp3 : pblk.writable = true) (hp4 : 0 < pblk.slots.length) :
    exec fuel LeafFns.econf_mergeFiles.body { mem := m, loc := loc } =
      exec fuel mfFill { mem := m.set pr (mfCell pblk m.length) ++ [Kof mfZeroSlots], loc := loc } := by
  have hprlt : pr < m.length := (List.getElem?_eq_some_iff.1 hp1).1
  have ht2 : testOf (some (.lor (.bin .eq (.load (.var 1) .ptr) .null .i32) (.bin .eq (.load (.var 2) .ptr) .null .i32))) { mem := m, loc := loc } =
      .ok (false, { mem := m, loc := loc }) := by
    simp [mc_eval, testOf, hl1, hl2, binop, boolVal, truth]
  have hmal : exec fuel (.expr (.assign (.slot (.load (.var 0) .ptr) 0) (.call "malloc_words" (.cons (.lit 16 .u64) .nil)) .ptr)) { mem := m, loc := loc } =
      .normal { mem := m.set pr (mfCell pblk m.length) ++ [Kof (List.replicate 16 .undef)], loc := loc } := by
    have hcall : evalE (.call "malloc_words" (.cons (.lit 16 .u64) .nil)) { mem := m, loc := loc } =
        .ok (.ptr m.length 0, { mem := m ++ [Kof (List.replicate 16 .undef)], loc := loc }) := by
      simp only [mc_eval, (alloc_words_spec m 16).1]
      rfl
    have hst := storeSlot_of (m := m ++ [Kof (List.replicate 16 .undef)]) (i := 0) (.ptr m.length 0) (by rw [List.getElem?_append_left hprlt]; exact hp1) hp2 hp3 hp4
    rw [List.set_append_left _ _ hprlt] at hst
    exact exec_assign_slot (evalL_cell 0 m loc pr hl0) hcall rfl (by simp) hst
  have hobj : ∀ K, evalE mfObj { mem := m.set pr (mfCell pblk m.length) ++ [K], loc := loc } =
      .ok (.ptr (m.set pr (mfCell pblk m.length)).length 0, { mem := m.set pr (mfCell pblk m.length) ++ [K], loc := loc }) := fun K => by
    rw [List.length_set]
    exact mf_obj _ loc pr m.length (mfCell pblk m.length) hl0 (by rw [List.getElem?_append_left (by rw [List.length_set]; exact hprlt), List.getElem?_set_self hprlt])
      hp2 (mfCell_slot0 pblk _ hp4)
  have hdw : exec fuel (.dowhile .skip (.lit 0 .i32)) { mem := m.set pr (mfCell pblk m.length) ++ [Kof mfZeroSlots], loc := loc } =
      .normal { mem := m.set pr (mfCell pblk m.length) ++ [Kof mfZeroSlots], loc := loc } := by
    obtain ⟨f, rfl⟩ : ∃ f, fuel = f + 1 := ⟨fuel - 1, by omega⟩
    simp [mc_exec, mc_eval, loop, testOf, truth]
  rw [econf_mergeFiles_shape, exec_seq_normal (exec_ite_null_skip fuel 0 pr _ m loc hl0), exec_seq_normal (exec_ite_skip ht2),
    exec_seq_normal hmal, mf_zero fuel _ loc _ hobj, exec_seq_normal (exec_ite_skip (testOf_ptr (hobj _)).1), exec_seq_normal hdw]

/-- from the copy of delimiter and comment to the three calls: the local `fe` (the new last block) points at the new entry array (the block after it) -/
theorem mf_fill (fuel : Nat) (a : Mem) (pr bu be nu ne : Nat) (dl cm : Int)
    (hobj : ∀ (rest : Mem) (loc : List Val), loc[0]? = some (.ptr pr 0) →
      evalE mfObj { mem := a ++ rest, loc := loc } = .ok (.ptr a.length 0, { mem := a ++ rest, loc := loc }))
    (hdl : ∀ rest : Mem, (a ++ rest).loadSlot bu 3 = .ok (.int dl)) (hdlr : -128 ≤ dl ∧ dl < 128)
    (hcm : ∀ rest : Mem, (a ++ rest).loadSlot bu 4 = .ok (.int cm)) (hcmr : -128 ≤ cm ∧ cm < 128)
    (hu : ∀ rest : Mem, (a ++ rest).loadSlot bu 1 = .ok (.int (nu : Int))) (he : ∀ rest : Mem, (a ++ rest).loadSlot be 1 = .ok (.int (ne : Int)))
    (hsz : ((ne + nu : Nat) : Int) * 7 < 18446744073709551616) :
    exec fuel mfFill { mem := a ++ [Kof mfZeroSlots], loc := [.ptr pr 0, .ptr bu 0, .ptr be 0, .undef, .undef] } =
      exec fuel mfMerge { mem := a ++ [Kof (mfSlots dl cm)] ++ [Kof [.ptr (a.length + 2) 0]] ++ [Kof (List.replicate (7 * (ne + nu)) .undef)], loc := [.ptr pr 0, .ptr bu 0, .ptr be 0, .ptr (a.length + 1) 0, .int 0] } := by
  have ho := fun K => hobj [K] [.ptr pr 0, .ptr bu 0, .ptr be 0, .undef, .undef] rfl
  -- delimiter and comment of the base, the path
  have h3 := mf_set_last fuel a mfZeroSlots [.ptr pr 0, .ptr bu 0, .ptr be 0, .undef, .undef] 3 (.load (.slot (.load (.var 1) .ptr) 3) .i8) .i8 (.int dl) (.int dl)
    ho (by simp [mfZeroSlots]) (by simp [mc_eval, hdl]) (by simp [convert, wrapTo_i8_of_range dl hdlr.1 hdlr.2]) (by simp)
  have h4 := mf_set_last fuel a (mfZeroSlots.set 3 (.int dl)) [.ptr pr 0, .ptr bu 0, .ptr be 0, .undef, .undef] 4 (.load (.slot (.load (.var 1) .ptr) 4) .i8) .i8 (.int cm) (.int cm)
    ho (by simp [mfZeroSlots]) (by simp [mc_eval, hcm]) (by simp [convert, wrapTo_i8_of_range cm hcmr.1 hcmr.2]) (by simp)
  have h6 := mf_set_null fuel a ((mfZeroSlots.set 3 (.int dl)).set 4 (.int cm)) [.ptr pr 0, .ptr bu 0, .ptr be 0, .undef, .undef] 6 ho (by simp [mfZeroSlots])
  have hsl : ((mfZeroSlots.set 3 (.int dl)).set 4 (.int cm)).set 6 .null = mfSlots dl cm := rfl
  rw [hsl] at h6
  -- the local `fe` and the array it points at
  obtain ⟨M1, hM1⟩ : ∃ M1 : Mem, M1 = a ++ [Kof (mfSlots dl cm)] := ⟨_, rfl⟩
  have hM1len : M1.length = a.length + 1 := by rw [hM1]; simp
  have hal : exec fuel (.expr (.assign (.var 3) (.call "alloca_words" (.cons (.lit 1 .u64) .nil)) .ptr))
      { mem := M1, loc := [.ptr pr 0, .ptr bu 0, .ptr be 0, .undef, .undef] } =
      .normal { mem := M1 ++ [Kof [.undef]], loc := [.ptr pr 0, .ptr bu 0, .ptr be 0, .ptr (a.length + 1) 0, .undef] } := by
    have hcall : evalE (.call "alloca_words" (.cons (.lit 1 .u64) .nil)) { mem := M1, loc := [.ptr pr 0, .ptr bu 0, .ptr be 0, .undef, .undef] } =
        .ok (.ptr (a.length + 1) 0, { mem := M1 ++ [Kof [.undef]], loc := [.ptr pr 0, .ptr bu 0, .ptr be 0, .undef, .undef] }) := by
      simp only [mc_eval, (alloc_words_spec M1 1).2, hM1len]
      rfl
    exact exec_assign_var hcall rfl (by simp)
  have hsize := mf_size (M1 ++ [Kof [.undef]]) [.ptr pr 0, .ptr bu 0, .ptr be 0, .ptr (a.length + 1) 0, .undef] bu be nu ne rfl rfl
    (by rw [hM1, List.append_assoc]; exact hu _) (by rw [hM1, List.append_assoc]; exact he _) hsz
  have harr : exec fuel (.expr (.assign (.slot (.load (.var 3) .ptr) 0) (.call "malloc_words" (.cons mfSize .nil)) .ptr))
      { mem := M1 ++ [Kof [.undef]], loc := [.ptr pr 0, .ptr bu 0, .ptr be 0, .ptr (a.length + 1) 0, .undef] } =
      .normal { mem := M1 ++ [Kof [.ptr (a.length + 2) 0]] ++ [Kof (List.replicate (7 * (ne + nu)) .undef)], loc := [.ptr pr 0, .ptr bu 0, .ptr be 0, .ptr (a.length + 1) 0, .undef] } := by
    have hcall : evalE (.call "malloc_words" (.cons mfSize .nil)) { mem := M1 ++ [Kof [.undef]], loc := [.ptr pr 0, .ptr bu 0, .ptr be 0, .ptr (a.length + 1) 0, .undef] } =
        .ok (.ptr (a.length + 2) 0, { mem := M1 ++ [Kof [.undef]] ++ [Kof (List.replicate (7 * (ne + nu)) .undef)], loc := [.ptr pr 0, .ptr bu 0, .ptr be 0, .ptr (a.length + 1) 0, .undef] }) := by
      generalize mfSize = SZ at hsize ⊢
      simp only [mc_eval, hsize, (alloc_words_spec _ _).1, Int.toNat_natCast, List.length_append, List.length_singleton, hM1len]
    have hst := storeSlot_of (m := M1 ++ [Kof [.undef]] ++ [Kof (List.replicate (7 * (ne + nu)) .undef)]) (b := a.length + 1) (i := 0) (.ptr (a.length + 2) 0)
      (blk := Kof [.undef]) (by rw [← hM1len]; simp) rfl rfl (by simp)
    have hset : ∀ C : Block, (M1 ++ [Kof [.undef]] ++ [Kof (List.replicate (7 * (ne + nu)) .undef)]).set (a.length + 1) C =
        M1 ++ [C] ++ [Kof (List.replicate (7 * (ne + nu)) .undef)] := fun C => by rw [← hM1len]; exact set_append_mid M1 _ _ _
    rw [hset] at hst
    exact exec_assign_slot (evalL_cell 3 _ _ (a.length + 1) rfl) hcall rfl (by simp) hst
  have hcl := cell_load 3 .ptr (M1 ++ [Kof [.ptr (a.length + 2) 0]] ++ [Kof (List.replicate (7 * (ne + nu)) .undef)])
    [.ptr pr 0, .ptr bu 0, .ptr be 0, .ptr (a.length + 1) 0, .undef] (a.length + 1) (Kof []) (.ptr (a.length + 2) 0) rfl (by rw [← hM1len]; simp [Kof]) rfl (by simp)
  have hv4 : exec fuel (.expr (.assign (.var 4) (.cast .u64 (.lit 0 .i32)) .u64))
      { mem := M1 ++ [Kof [.ptr (a.length + 2) 0]] ++ [Kof (List.replicate (7 * (ne + nu)) .undef)], loc := [.ptr pr 0, .ptr bu 0, .ptr be 0, .ptr (a.length + 1) 0, .undef] } =
      .normal { mem := M1 ++ [Kof [.ptr (a.length + 2) 0]] ++ [Kof (List.replicate (7 * (ne + nu)) .undef)], loc := [.ptr pr 0, .ptr bu 0, .ptr be 0, .ptr (a.length + 1) 0, .int 0] } :=
    u64_zero fuel 4 _ _ (by simp)
  unfold mfFill
  rw [exec_seq_normal h3, exec_seq_normal h4, exec_seq_normal h6, ← hM1, exec_seq_normal hal, exec_seq_normal harr, exec_seq_normal (exec_ite_skip (testOf_ptr hcl).1),
    exec_seq_normal hv4]

/-- `econf_mergeFiles` up to the three calls: the object is allocated (block `m.length`) and initialised, the cell `*merged_file` points
    at it, the local `fe` (block `m.length + 1`) points at the new entry array (block `m.length + 2`) -/
theorem mf_prefix (fuel : Nat) (hfuel : 0 < fuel) (m : Mem) (pr bu bua be bea : Nat) (us es : List Econf.Entry) (dl cm : Int)
    (pblk : Block) (hp1 : m[pr]? = some pblk) (hp2 : pblk.live = true) (hp3 : pblk.writable = true) (hp4 : 0 < pblk.slots.length)
    (hUs : SrcMem m bu bua us [pr]) (hEs : SrcMem m be bea es [pr])
    (hdl : m.loadSlot bu 3 = .ok (.int dl)) (hdlr : -128 ≤ dl ∧ dl < 128)
    (hcm : m.loadSlot bu 4 = .ok (.int cm)) (hcmr : -128 ≤ cm ∧ cm < 128)
    (hsz : ((es.length + us.length : Nat) : Int) * 7 < 18446744073709551616) :
    exec fuel LeafFns.econf_mergeFiles.body { mem := m, loc := [.ptr pr 0, .ptr bu 0, .ptr be 0, .undef, .undef] } =
      exec fuel mfMerge { mem := mfMem0 m pr pblk dl cm (es.length + us.length), loc := [.ptr pr 0, .ptr bu 0, .ptr be 0, .ptr (m.length + 1) 0, .int 0] } := by
  have hprlt : pr < m.length := (List.getElem?_eq_some_iff.1 hp1).1
  obtain ⟨ub, u1, u2, u3, u4⟩ := hUs.kf
  obtain ⟨eb, e1, e2, e3, e4⟩ := hEs.kf
  have hbupr : bu ≠ pr := by have := hUs.kfav; simpa using this
  have hbepr : be ≠ pr := by have := hEs.kfav; simpa using this
  have hul : m.loadSlot bu 1 = .ok (.int us.length) := loadSlot_of (i := 1) u1 u2 u4 (by simp)
  have hel : m.loadSlot be 1 = .ok (.int es.length) := loadSlot_of (i := 1) e1 e2 e4 (by simp)
  obtain ⟨a, ha⟩ : ∃ a : Mem, a = m.set pr (mfCell pblk m.length) := ⟨_, rfl⟩
  have halen : a.length = m.length := by rw [ha, List.length_set]
  have hold : ∀ (rest : Mem) (b : Nat), b < m.length → b ≠ pr → (a ++ rest)[b]? = m[b]? := fun rest b hb hne => by
    rw [List.getElem?_append_left (by rw [halen]; exact hb), ha]; exact set_other hne
  have hbult : bu < m.length := (List.getElem?_eq_some_iff.1 u1).1
  have hbelt : be < m.length := (List.getElem?_eq_some_iff.1 e1).1
  have hobj : ∀ (rest : Mem) (loc : List Val), loc[0]? = some (.ptr pr 0) →
      evalE mfObj { mem := a ++ rest, loc := loc } = .ok (.ptr a.length 0, { mem := a ++ rest, loc := loc }) := fun rest loc hl0 => by
    rw [halen]
    exact mf_obj _ loc pr m.length (mfCell pblk m.length) hl0 (by rw [List.getElem?_append_left (by rw [halen]; exact hprlt), ha, List.getElem?_set_self hprlt])
      hp2 (mfCell_slot0 pblk _ hp4)
  rw [mf_calloc fuel hfuel m _ pr bu be pblk rfl rfl rfl hp1 hp2 hp3 hp4, ← ha,
    mf_fill fuel a pr bu be us.length es.length dl cm hobj (fun rest => by rw [loadSlot_congr (hold rest bu hbult hbupr)]; exact hdl) hdlr
      (fun rest => by rw [loadSlot_congr (hold rest bu hbult hbupr)]; exact hcm) hcmr
      (fun rest => by rw [loadSlot_congr (hold rest bu hbult hbupr)]; exact hul) (fun rest => by rw [loadSlot_congr (hold rest be hbelt hbepr)]; exact hel) hsz,
    halen]
  subst ha
  rfl


/-- the last statements: `length`, `alloc_length` and `file_entry` of the object (block `L`) are set, error code 0 -/
theorem mf_tail (fuel : Nat) (m3 : Mem) (pr L c fa n : Nat) (v1 v2 : Val) (kb cblk pc : Block)
    (hpc : m3[pr]? = some pc) (hpl : pc.live = true) (hp0 : pc.slots[0]? = some (.ptr L 0)) (hLpr : L ≠ pr)
    (hk : m3[L]? = some kb) (hkl : kb.live = true) (hkw : kb.writable = true) (hlen : kb.slots.length = 16)
    (hc1 : m3[c]? = some cblk) (hc2 : cblk.live = true) (hc3 : cblk.slots[0]? = some (.ptr fa 0)) (hcL : c ≠ L)
    (hn : (n : Int) < 18446744073709551616) :
    exec fuel (.seq (mfSet 1 (.load (.var 4) .u64) .u64) (.seq (mfSet 2 (.load (.var 4) .u64) .u64)
        (.seq (mfSet 0 (.load (.slot (.load (.var 3) .ptr) 0) .ptr) .ptr) (.ret (some (.cast .u32 (.lit 0 .i32)))))))
        { mem := m3, loc := [.ptr pr 0, v1, v2, .ptr c 0, .int (n : Int)] } =
      .ret (.int 0) { mem := m3.set L { kb with slots := ((kb.slots.set 1 (.int (n : Int))).set 2 (.int (n : Int))).set 0 (.ptr fa 0) }, loc := [.ptr pr 0, v1, v2, .ptr c 0, .int (n : Int)] } := by
  have hLlt : L < m3.length := (List.getElem?_eq_some_iff.1 hk).1
  have hobj : ∀ mm : Mem, mm[pr]? = m3[pr]? → evalE mfObj { mem := mm, loc := [.ptr pr 0, v1, v2, .ptr c 0, .int (n : Int)] } =
      .ok (.ptr L 0, { mem := mm, loc := [.ptr pr 0, v1, v2, .ptr c 0, .int (n : Int)] }) := fun mm h =>
    mf_obj mm _ pr L pc rfl (h.trans hpc) hpl hp0
  have hv4 : ∀ mm : Mem, evalE (.load (.var 4) .u64) { mem := mm, loc := [.ptr pr 0, v1, v2, .ptr c 0, .int (n : Int)] } =
      .ok (.int (n : Int), { mem := mm, loc := [.ptr pr 0, v1, v2, .ptr c 0, .int (n : Int)] }) := fun mm => evalE_var (v := 4) (ty := .u64) (st := ⟨mm, _⟩) rfl (by simp)
  have hs1 := mf_set fuel m3 _ L 1 kb _ .u64 _ _ (hobj m3 rfl) hk hkl hkw (by omega) (hv4 m3) (convert_u64_small _ (Int.natCast_nonneg _) hn) (by simp)
  have hs2 := mf_set fuel (m3.set L { kb with slots := kb.slots.set 1 (.int (n : Int)) }) _ L 2 { kb with slots := kb.slots.set 1 (.int (n : Int)) } _ .u64 _ _
    (hobj _ (set_other (Ne.symm hLpr))) (List.getElem?_set_self hLlt) hkl hkw
    (by rw [List.length_set]; omega) (hv4 _) (convert_u64_small _ (Int.natCast_nonneg _) hn) (by simp)
  rw [List.set_set] at hs2
  have hfe : evalE (.load (.slot (.load (.var 3) .ptr) 0) .ptr)
      { mem := m3.set L { kb with slots := (kb.slots.set 1 (.int (n : Int))).set 2 (.int (n : Int)) }, loc := [.ptr pr 0, v1, v2, .ptr c 0, .int (n : Int)] } =
      .ok (.ptr fa 0, { mem := m3.set L { kb with slots := (kb.slots.set 1 (.int (n : Int))).set 2 (.int (n : Int)) }, loc := [.ptr pr 0, v1, v2, .ptr c 0, .int (n : Int)] }) := by
    have hl : Mem.loadSlot (m3.set L { kb with slots := (kb.slots.set 1 (.int (n : Int))).set 2 (.int (n : Int)) }) c 0 = .ok (.ptr fa 0) :=
      loadSlot_of (i := 0) ((set_other hcL).trans hc1) hc2 hc3 (by simp)
    simp [mc_eval, hl]
  have hs3 := mf_set fuel (m3.set L { kb with slots := (kb.slots.set 1 (.int (n : Int))).set 2 (.int (n : Int)) }) _ L 0
    { kb with slots := (kb.slots.set 1 (.int (n : Int))).set 2 (.int (n : Int)) } _ .ptr _ _ (hobj _ (set_other (Ne.symm hLpr))) (List.getElem?_set_self hLlt) hkl hkw
    (by rw [List.length_set, List.length_set]; omega) hfe rfl (by simp)
  rw [List.set_set] at hs3
  rw [exec_seq_normal hs1, exec_seq_normal hs2, exec_seq_normal hs3]
  exact exec_ret_u32 fuel 0 (by omega) (by omega) _

theorem mfMem0_spec (m : Mem) (pr : Nat) (pblk : Block) (dl cm : Int) (n : Nat) (hpr : pr < m.length) :
    (mfMem0 m pr pblk dl cm n).length = m.length + 3 ∧ (mfMem0 m pr pblk dl cm n)[m.length]? = some (Kof (mfSlots dl cm)) ∧
    (mfMem0 m pr pblk dl cm n)[m.length + 1]? = some (Kof [.ptr (m.length + 2) 0]) ∧
    (mfMem0 m pr pblk dl cm n)[m.length + 2]? = some (Kof (List.replicate (7 * n) .undef)) ∧
    (mfMem0 m pr pblk dl cm n)[pr]? = some (mfCell pblk m.length) ∧ ∀ b, b < m.length → b ≠ pr → (mfMem0 m pr pblk dl cm n)[b]? = m[b]? := by
  have hlo : ∀ b, b < m.length → (mfMem0 m pr pblk dl cm n)[b]? = (m.set pr (mfCell pblk m.length))[b]? := fun b hb => by
    unfold mfMem0
    rw [List.append_assoc, List.append_assoc, List.getElem?_append_left (by rw [List.length_set]; exact hb)]
  refine ⟨by simp [mfMem0], by simp [mfMem0], by simp [mfMem0], by simp [mfMem0], by rw [hlo pr hpr, List.getElem?_set_self hpr],
    fun b hb hne => by rw [hlo b hb]; exact set_other hne⟩

theorem lt_not_mem_pair {b L : Nat} (h : b < L) : b ∉ [L, L + 2] := by
  simp only [List.mem_cons, List.not_mem_nil, or_false, not_or]
  omega

/-- the three calls, as `econf_mergeFiles` makes them on the memory `mfMem0`: the entry array holds `mergeEntries us es`, the object has
    its group list and otherwise the members it had, the counter in variable 4 is the number of entries -/
theorem mf_calls (m : Mem) (pr bu bua be bea : Nat) (us es : List Econf.Entry) (dl cm : Int) (pblk : Block)
    (hprlt : pr < m.length) (hp2 : pblk.live = true) (hp4 : 0 < pblk.slots.length)
    (hUs : SrcMem m bu bua us [pr]) (hEs : SrcMem m be bea es [pr])
    (hsmall : (us.length : Int) + 2 * es.length + 2 < 2147483648)
    (hlines : ∀ e ∈ es, (e.line : Int) < 18446744073709551616) (hulines : ∀ e ∈ us, (e.line : Int) < 18446744073709551616)
    (fuel : Nat) (hf : 2 * es.length + 2 * us.length + 4 < fuel) (rest : Stmt) :
    ∃ m3 bl' gl' fa' kb3 cblk',
      exec fuel (.seq (.inl (some (.var 4)) .u64 mfArgs4 9 LeafFns.insert_nogroup.body)
          (.seq (.inl (some (.var 4)) .u64 mfArgs5 15 LeafFns.merge_existing_groups.body)
            (.seq (.inl (some (.var 4)) .u64 mfArgs5 10 LeafFns.add_new_groups.body) rest)))
          { mem := mfMem0 m pr pblk dl cm (es.length + us.length), loc := [.ptr pr 0, .ptr bu 0, .ptr be 0, .ptr (m.length + 1) 0, .int 0] } =
        exec fuel rest { mem := m3, loc := [.ptr pr 0, .ptr bu 0, .ptr be 0, .ptr (m.length + 1) 0, .int ((Econf.mergeEntries us es).length : Int)] } ∧
      m3[pr]? = some (mfCell pblk m.length) ∧
      m3[m.length]? = some kb3 ∧ kb3.live = true ∧ KfKeep (Kof (mfSlots dl cm)) kb3 ∧
      m3[m.length + 1]? = some cblk' ∧ cblk'.live = true ∧ cblk'.slots[0]? = some (.ptr fa' 0) ∧
      GlMem m3 m.length bl' gl' ∧ (gl' ≠ [] → m.length ≠ bl') ∧ gl'.map (·.2) = Econf.groupsOf (Econf.mergeEntries us es) ∧
      (∀ j (h : j < (Econf.mergeEntries us es).length), EntMem m3 fa' (7 * j) ((Econf.mergeEntries us es)[j]) [m.length, bl']) ∧
      (∀ b, b < m.length → b ≠ pr → m3[b]? = m[b]?) := by
  obtain ⟨hM0len, hM0bd, hM0c, hM0a, hM0pr, hM0old⟩ := mfMem0_spec m pr pblk dl cm (es.length + us.length) hprlt
  obtain ⟨M0, hM0⟩ : ∃ M0 : Mem, M0 = mfMem0 m pr pblk dl cm (es.length + us.length) := ⟨_, rfl⟩
  rw [← hM0] at hM0len hM0bd hM0c hM0a hM0pr hM0old ⊢
  obtain ⟨L, hL⟩ : ∃ L, L = m.length := ⟨_, rfl⟩
  rw [← hL] at hprlt hM0len hM0bd hM0c hM0a hM0pr hM0old ⊢
  have hLM : L ≤ M0.length := by omega
  have hprM : pr < M0.length := Nat.lt_of_lt_of_le hprlt hLM
  have hb := Econf.C03_bound us es
  have hE1 : ((Econf.insertNoGroup us es).length : Int) ≤ ((Econf.mergeEntries us es).length : Int) := by simp [Econf.mergeEntries]; omega
  have hE2 : ((Econf.insertNoGroup us es).length : Int) + ((Econf.mergeExisting us es).length : Int) ≤ ((Econf.mergeEntries us es).length : Int) := by
    simp [Econf.mergeEntries]; omega
  have hEb : ((Econf.mergeEntries us es).length : Int) < 18446744073709551616 := by omega
  have htr : ∀ b, b < m.length → b ∉ [pr] → M0[b]? = m[b]? := fun b hb hav => hM0old b (hL ▸ hb) (by simpa using hav)
  have hav : ∀ b, b < m.length → b ∉ [pr] → b ∉ [L, L + 2] := fun b hb _ => lt_not_mem_pair (hL ▸ hb)
  obtain ⟨m1, m2, m3, loc1, loc2, loc3, bl', gl', fa', n1, n2, h1, h2, h3, hG3, hn, ⟨cblk', hc1, hc2, hc3⟩, hE, hfr, hn1, hn2, hkeep, hne3, hd3, hfr1, hfr2⟩ :=
    C_merge3_fresh M0 L (L + 2) (L + 1) bu bua be bea us es (hUs.transfer htr hav) (hEs.transfer htr hav)
      (Kof [.ptr (L + 2) 0]) hM0c rfl rfl rfl rfl (by simp) (by omega) ⟨_, hM0bd, rfl, rfl, rfl⟩
      (fun blk hb => by rw [hM0bd] at hb; injection hb with hb; subst hb; rfl)
      (Kof (List.replicate (7 * (es.length + us.length)) .undef)) hM0a rfl rfl rfl (by simp) hsmall hlines hulines fuel hf
  subst hn1
  subst hn2
  clear hUs hEs hsmall hlines hulines hf hb htr hav
  -- the cell `*merged_file` stays what it is through the calls
  have hpr1 : m1[pr]? = M0[pr]? := hfr1 pr hprM (lt_not_mem_pair hprlt)
  have hpr2 : m2[pr]? = M0[pr]? := hfr2 pr hprM (lt_not_mem_pair hprlt)
  have hfr3 : ∀ b, b < L → m3[b]? = M0[b]? := fun b hb => hfr b (Nat.lt_of_lt_of_le hb hLM) (by
    simp only [List.mem_cons, List.not_mem_nil, or_false, not_or]; omega)
  have hcell0 := mfCell_slot0 pblk L hp4
  have hobj : ∀ (mm : Mem) (loc : List Val), mm[pr]? = M0[pr]? → loc[0]? = some (.ptr pr 0) →
      evalE mfObj { mem := mm, loc := loc } = .ok (.ptr L 0, { mem := mm, loc := loc }) := fun mm loc hmm hl0 =>
    mf_obj mm loc pr L _ hl0 (hmm.trans hM0pr) hp2 hcell0
  have hargs4 : evalArgs mfArgs4 { mem := M0, loc := [.ptr pr 0, .ptr bu 0, .ptr be 0, .ptr (L + 1) 0, .int 0] } =
      .ok ([.ptr L 0, .ptr (L + 1) 0, .ptr bu 0, .ptr be 0], { mem := M0, loc := [.ptr pr 0, .ptr bu 0, .ptr be 0, .ptr (L + 1) 0, .int 0] }) := by
    have ho := hobj M0 [.ptr pr 0, .ptr bu 0, .ptr be 0, .ptr (L + 1) 0, .int 0] rfl rfl
    unfold mfArgs4
    generalize mfObj = O at ho ⊢
    simp [mc_eval, ho]
  have hargs5 : ∀ (mm : Mem) (v4 : Int), mm[pr]? = M0[pr]? →
      evalArgs mfArgs5 { mem := mm, loc := [.ptr pr 0, .ptr bu 0, .ptr be 0, .ptr (L + 1) 0, .int v4] } =
      .ok ([.ptr L 0, .ptr (L + 1) 0, .ptr bu 0, .ptr be 0, .int v4], { mem := mm, loc := [.ptr pr 0, .ptr bu 0, .ptr be 0, .ptr (L + 1) 0, .int v4] }) := by
    intro mm v4 hmm
    have ho := hobj mm [.ptr pr 0, .ptr bu 0, .ptr be 0, .ptr (L + 1) 0, .int v4] hmm rfl
    unfold mfArgs5
    generalize mfObj = O at ho ⊢
    simp [mc_eval, ho]
  have hcv : ∀ n : Int, 0 ≤ n → n ≤ ((Econf.mergeEntries us es).length : Int) → convert .u64 (.int n) = .ok (.int n) := by
    intro n h0 hn
    have : wrapTo .u64 n = n := wrapTo_u64_small _ h0 (by omega)
    simp [convert, this]
  have hi1 := exec_inl_val (fuel := fuel) (nl := 9) (body := LeafFns.insert_nogroup.body) (i := 4) (dty := .u64) (v := .int ((Econf.insertNoGroup us es).length : Int)) (v' := .int ((Econf.insertNoGroup us es).length : Int))
    (st' := { mem := m1, loc := loc1 }) hargs4 (by simpa using h1) (hcv _ (Int.natCast_nonneg _) hE1) (by simp)
  have hi2 := exec_inl_val (fuel := fuel) (nl := 15) (body := LeafFns.merge_existing_groups.body) (i := 4) (dty := .u64) (v := .int (((Econf.insertNoGroup us es).length : Int) + ((Econf.mergeExisting us es).length : Int))) (v' := .int (((Econf.insertNoGroup us es).length : Int) + ((Econf.mergeExisting us es).length : Int)))
    (st' := { mem := m2, loc := loc2 }) (hargs5 m1 _ hpr1) (by simpa using h2) (hcv _ (Int.add_nonneg (Int.natCast_nonneg _) (Int.natCast_nonneg _)) hE2) (by simp)
  have hi3 := exec_inl_val (fuel := fuel) (nl := 10) (body := LeafFns.add_new_groups.body) (i := 4) (dty := .u64) (v := .int ((Econf.mergeEntries us es).length : Int)) (v' := .int ((Econf.mergeEntries us es).length : Int))
    (st' := { mem := m3, loc := loc3 }) (hargs5 m2 _ hpr2) (by simpa using h3) (hcv _ (Int.natCast_nonneg _) (Int.le_refl _)) (by simp)
  simp only [List.set_cons_succ, List.set_cons_zero] at hi1 hi2 hi3
  obtain ⟨kb3, hk3, hk3l, _, _⟩ := hG3.obj
  refine ⟨m3, bl', gl', fa', kb3, cblk', by rw [exec_seq_normal hi1, exec_seq_normal hi2, exec_seq_normal hi3], (hfr3 pr hprlt).trans hM0pr, hk3, hk3l,
    hkeep _ kb3 hM0bd hk3, hc1, hc2, hc3, hG3, hne3, hn, hE, fun b hb hne => (hfr3 b hb).trans (hM0old b hb hne)⟩

/-- **`econf_mergeFiles`** on the generated term, both files present: error code 0; the cell `*merged_file` points at a new object (block
    `m.length`) whose entry array holds exactly the model's `mergeEntries us es`, whose `length` and `alloc_length` are their number, whose
    delimiter and comment are those of the base `usr_file`, whose path is NULL and whose group list is the model's `groupsOf`; every block
    of the caller other than the cell is unchanged. -/
theorem C_econf_mergeFiles (m : Mem) (pr bu bua be bea : Nat) (us es : List Econf.Entry) (dl cm : Int)
    (pblk : Block) (hp1 : m[pr]? = some pblk) (hp2 : pblk.live = true) (hp3 : pblk.writable = true) (hp4 : 0 < pblk.slots.length)
    (hUs : SrcMem m bu bua us [pr]) (hEs : SrcMem m be bea es [pr])
    (hdl : m.loadSlot bu 3 = .ok (.int dl)) (hdlr : -128 ≤ dl ∧ dl < 128)
    (hcm : m.loadSlot bu 4 = .ok (.int cm)) (hcmr : -128 ≤ cm ∧ cm < 128)
    (hsmall : (us.length : Int) + 2 * es.length + 2 < 2147483648)
    (hlines : ∀ e ∈ es, (e.line : Int) < 18446744073709551616) (hulines : ∀ e ∈ us, (e.line : Int) < 18446744073709551616)
    (fuel : Nat) (hf : 2 * es.length + 2 * us.length + 4 < fuel) :
    ∃ m' loc' fa' bl' gl' kb,
      exec fuel LeafFns.econf_mergeFiles.body { mem := m, loc := [.ptr pr 0, .ptr bu 0, .ptr be 0, .undef, .undef] } =
        .ret (.int 0) { mem := m', loc := loc' } ∧
      m'[pr]? = some (mfCell pblk m.length) ∧
      m'[m.length]? = some kb ∧ kb.live = true ∧ kb.slots.length = 16 ∧
      kb.slots[0]? = some (.ptr fa' 0) ∧ kb.slots[1]? = some (.int (Econf.mergeEntries us es).length) ∧
      kb.slots[2]? = some (.int (Econf.mergeEntries us es).length) ∧
      kb.slots[3]? = some (.int dl) ∧ kb.slots[4]? = some (.int cm) ∧ kb.slots[6]? = some .null ∧
      (∀ i, 3 ≤ i → i ≠ 13 → i ≠ 14 → kb.slots[i]? = (mfSlots dl cm)[i]?) ∧
      GlMem m' m.length bl' gl' ∧ gl'.map (·.2) = Econf.groupsOf (Econf.mergeEntries us es) ∧
      (∀ j (h : j < (Econf.mergeEntries us es).length), EntMem m' fa' (7 * j) ((Econf.mergeEntries us es)[j]) [m.length, bl']) ∧
      (∀ b, b < m.length → b ≠ pr → m'[b]? = m[b]?) := by
  have hprlt : pr < m.length := (List.getElem?_eq_some_iff.1 hp1).1
  rw [mf_prefix fuel (Nat.lt_of_le_of_lt (Nat.zero_le _) hf) m pr bu bua be bea us es dl cm pblk hp1 hp2 hp3 hp4 hUs hEs hdl hdlr hcm hcmr (by omega)]
  unfold mfMerge
  obtain ⟨m3, bl', gl', fa', kb3, cblk', hex, hpr3, hk3, hk3l, ⟨kw, _, klen, kother⟩, hc1, hc2, hc3, hG3, hne3, hn, hE, hfr⟩ :=
    mf_calls m pr bu bua be bea us es dl cm pblk hprlt hp2 hp4 hUs hEs hsmall hlines hulines fuel hf
      (.seq (mfSet 1 (.load (.var 4) .u64) .u64) (.seq (mfSet 2 (.load (.var 4) .u64) .u64)
        (.seq (mfSet 0 (.load (.slot (.load (.var 3) .ptr) 0) .ptr) .ptr) (.ret (some (.cast .u32 (.lit 0 .i32)))))))
  have hb := Econf.C03_bound us es
  have hEb : ((Econf.mergeEntries us es).length : Int) < 18446744073709551616 := by omega
  clear hUs hEs hsmall hlines hulines hf hb hdl hcm
  have klen' : kb3.slots.length = 16 := klen
  have hLlt3 : m.length < m3.length := (List.getElem?_eq_some_iff.1 hk3).1
  have hLpr : m.length ≠ pr := Nat.ne_of_gt hprlt
  -- `length`, `alloc_length`, `file_entry`
  obtain ⟨sl6, hsl6⟩ : ∃ sl6, sl6 = ((kb3.slots.set 1 (.int ((Econf.mergeEntries us es).length : Int))).set 2 (.int ((Econf.mergeEntries us es).length : Int))).set 0 (.ptr fa' 0) := ⟨_, rfl⟩
  have htail := mf_tail fuel m3 pr m.length (m.length + 1) fa' (Econf.mergeEntries us es).length (.ptr bu 0) (.ptr be 0) kb3 cblk' (mfCell pblk m.length) hpr3 hp2
    (mfCell_slot0 pblk _ hp4) hLpr hk3 hk3l kw klen' hc1 hc2 hc3 (Nat.succ_ne_self _) hEb
  rw [← hsl6] at htail
  have ho6 : ∀ b, b ≠ m.length → (m3.set m.length { kb3 with slots := sl6 })[b]? = m3[b]? := fun b hb => set_other hb
  have hs13 : ∀ i, i ≠ 0 → i ≠ 1 → i ≠ 2 → sl6[i]? = kb3.slots[i]? := fun i h0 h1 h2 => by
    rw [hsl6, List.getElem?_set_ne (Ne.symm h0), List.getElem?_set_ne (Ne.symm h2), List.getElem?_set_ne (Ne.symm h1)]
  refine ⟨m3.set m.length { kb3 with slots := sl6 }, _, fa', bl', gl', { kb3 with slots := sl6 }, hex.trans htail,
    by rw [ho6 pr (Ne.symm hLpr)]; exact hpr3, List.getElem?_set_self hLlt3, hk3l, by simp [hsl6, klen'], by simp [hsl6, klen'],
    by simp [hsl6, klen'], by simp [hsl6, klen'], ?_, ?_, ?_, ?_,
    hG3.set_slots hne3 hk3 sl6 (hs13 13 (by decide) (by decide) (by decide)) (hs13 14 (by decide) (by decide) (by decide)), hn, ?_, ?_⟩
  · exact (hs13 3 (by decide) (by decide) (by decide)).trans (kother 3 (by decide) (by decide))
  · exact (hs13 4 (by decide) (by decide) (by decide)).trans (kother 4 (by decide) (by decide))
  · exact (hs13 6 (by decide) (by decide) (by decide)).trans (kother 6 (by decide) (by decide))
  · intro i h3 h13 h14
    exact (hs13 i (Nat.ne_of_gt (Nat.lt_of_lt_of_le (by decide) h3)) (Nat.ne_of_gt (Nat.lt_of_lt_of_le (by decide) h3))
      (Nat.ne_of_gt (Nat.lt_of_lt_of_le (by decide) h3))).trans (kother i h13 h14)
  · intro j hj
    refine (hE j hj).mono (fun b hb hav => ho6 b ?_)
    simp only [List.mem_cons, List.not_mem_nil, or_false, not_or] at hav
    exact hav.1
  · intro b hb hne
    rw [ho6 b (Nat.ne_of_lt hb)]
    exact hfr b hb hne

end LeafKf

namespace LeafKf.Example

/-! The concrete memory of the earlier examples, with a caller's pointer variable `econf_file *merged` (block 20, not yet initialised)
    behind it: every hypothesis of `C_econf_mergeFiles` is met. -/

def memF : Mem := mem ++ [{ cells := [], slots := [.undef] }]

theorem memF_old : ∀ b, b < mem.length → b ∉ [0, 1, 3] → memF[b]? = mem[b]? := fun _ hb _ => List.getElem?_append_left hb

theorem run_mergeFiles : ∃ m' loc' fa' bl' gl' kb,
    exec 20 LeafFns.econf_mergeFiles.body { mem := memF, loc := [.ptr 20 0, .ptr 4 0, .ptr 9 0, .undef, .undef] } = .ret (.int 0) { mem := m', loc := loc' } ∧
    m'[20]? = some { cells := [], slots := [.ptr 21 0] } ∧ m'[21]? = some kb ∧
    kb.slots[0]? = some (.ptr fa' 0) ∧ kb.slots[1]? = some (.int 3) ∧ kb.slots[2]? = some (.int 3) ∧ kb.slots[3]? = some (.int 61) ∧ kb.slots[4]? = some (.int 35) ∧
    GlMem m' 21 bl' gl' ∧ gl'.map (·.2) = [Econf.NONE, [65], [66]] ∧
    EntMem m' fa' 7 { group := [65], key := [107], value := some [49], cb := none, ca := none, line := 1, quotes := false } [21, bl'] := by
  have hav : ∀ b, b < mem.length → b ∉ [0, 1, 3] → b ∉ [20] := by
    intro b hb _
    have : mem.length = 20 := rfl
    simp only [List.mem_cons, List.not_mem_nil, or_false]
    omega
  obtain ⟨m', loc', fa', bl', gl', kb, hex, hp, hk, _, _, k0, k1, k2, k3, k4, _, _, hG, hn, hE, _⟩ :=
    C_econf_mergeFiles memF 20 4 5 9 10 us es 61 35 _ rfl rfl rfl (by decide) (base_full.transfer memF_old hav) (override_ok.transfer memF_old hav)
      rfl (by decide) rfl (by decide) (by decide)
      (fun e he => by simp [es] at he; rcases he with rfl | rfl | rfl <;> decide)
      (fun e he => by simp [us] at he; subst he; decide) 20 (by decide)
  have hlen : memF.length = 21 := rfl
  rw [hlen] at hp hk hG hE
  rw [model_merge] at k1 k2 hE
  have hg : Econf.groupsOf (Econf.mergeEntries us es) = [Econf.NONE, [65], [66]] := by rw [model_merge]; decide
  rw [hg] at hn
  exact ⟨m', loc', fa', bl', gl', kb, hex, hp, hk, k0, k1, k2, k3, k4, hG, hn, by simpa using hE 1 (by simp)⟩

end LeafKf.Example
