import Econf.Props.LeafAddNew
open MiniC Leaf LeafKf
namespace LeafKf

/-!
  The pieces of `merge_existing_groups` of lib/mergefiles.c on the generated term: the search for a later entry of the group (`me_last`),
  the inner loop that appends the keys only the override defines (`me_newkeys_inv`, `C_me_newkeys` = the model's `newKeysOf`), the
  replacement of a value by the override's (`me_override` = `overrideValue`); the invariant of the array as these loops use it (`ArrInv`).
-/

def meLastTest : Expr := .bin .lt (.load (.var 11) .u64) (.load (.slot (.load (.var 2) .ptr) 1) .u64) .i32
def meLastBody : Stmt := .ite (.un .lnot (.call "strcmp" (.cons (.load (.slot (.sidx (.load (.slot (.load (.var 2) .ptr) 0) .ptr) (.load (.var 11) .u64) 7) 0) .ptr)
    (.cons (.load (.var 7) .ptr) .nil))) .i32) (.seq (.expr (.assign (.var 8) (.cast .bool (.lit 0 .i32)) .bool)) .brk) .skip
def meLastLoop : Stmt := .for (some meLastTest) (some (.incdec (.var 11) true true .u64)) meLastBody

/-- the search for a later entry of the same group: `last_of_group` is cleared iff the rest of the base has the group -/
theorem me_last (fuel : Nat) (mm : Mem) (loc : List Val) (bu bua bg : Nat) (us : List Econf.Entry) (av : List Nat) (g : List UInt8) (i : Nat)
    (hS : SrcMem mm bu bua us av) (hl2 : loc[2]? = some (.ptr bu 0)) (hl7 : loc[7]? = some (.ptr bg 0)) (hg : mm.cstr bg 0 = .ok g)
    (hlen : 12 ≤ loc.length) (hi : i < us.length) (hsmall : (us.length : Int) + 1 < 18446744073709551616) (hf : us.length < fuel) :
    ∃ k, exec fuel meLastLoop { mem := mm, loc := loc.set 11 (.int ((i + 1 : Nat) : Int)) } =
      .normal { mem := mm, loc := if Econf.hasGroup (us.drop (i + 1)) g then (loc.set 11 (.int (k : Int))).set 8 (.int 0) else loc.set 11 (.int (k : Int)) } := by
  let P : Nat → St := fun idx => { mem := mm, loc := loc.set 11 (.int ((i + 1 + idx : Nat) : Int)) }
  have hP2 : ∀ idx, (P idx).loc[2]? = some (.ptr bu 0) := fun idx => get_set_ne (by decide) hl2
  have hP7 : ∀ idx, (P idx).loc[7]? = some (.ptr bg 0) := fun idx => get_set_ne (by decide) hl7
  have hP11 : ∀ idx, (P idx).loc[11]? = some (.int ((i + 1 + idx : Nat) : Int)) := fun idx => List.getElem?_set_self (by omega)
  have hE : ∀ idx (h : idx < (entsOf (us.drop (i + 1))).length), i + 1 + idx < us.length ∧
      ∀ h', ((entsOf (us.drop (i + 1)))[idx]'h).1 = (us[i + 1 + idx]'h').group := by
    intro idx h
    simp only [entsOf, List.length_map, List.length_drop] at h
    exact ⟨by omega, fun h' => by simp [entsOf]⟩
  have hEl : (entsOf (us.drop (i + 1))).length = us.length - (i + 1) := by simp [entsOf]
  have hfle := firstG_le (entsOf (us.drop (i + 1))) g
  have hmodel := firstG_model (us.drop (i + 1)) g
  rw [List.length_drop, ← hEl] at hmodel
  -- the rounds before the first entry of the group, and the round that finds it
  have hcond : ∀ idx (h : i + 1 + idx < us.length), testOf (some (.un .lnot (.call "strcmp" (.cons (.load (.slot (.sidx (.load (.slot (.load (.var 2) .ptr) 0) .ptr)
      (.load (.var 11) .u64) 7) 0) .ptr) (.cons (.load (.var 7) .ptr) .nil))) .i32)) (P idx) = .ok (decide ((us[i + 1 + idx]).group = g), P idx) := fun idx h =>
    ef_group_eq 2 11 7 mm _ bu bua bg us av (i + 1 + idx) g hS h (hP2 idx) (hP11 idx) (hP7 idx) hg
  have hloop := search_loop_brk fuel meLastTest (.incdec (.var 11) true true .u64) meLastBody P (entsOf (us.drop (i + 1))).length
    (firstG (entsOf (us.drop (i + 1))) g) { mem := mm, loc := (loc.set 11 (.int ((i + 1 + firstG (entsOf (us.drop (i + 1))) g : Nat) : Int))).set 8 (.int 0) }
    (fun idx => by
      have h := ef_test 2 11 mm _ bu bua us av (i + 1 + idx) hS (hP2 idx) (hP11 idx)
      rwa [show decide (i + 1 + idx < us.length) = decide (idx < (entsOf (us.drop (i + 1))).length) by
        simp only [decide_eq_decide, hEl]; omega] at h)
    (fun idx h => by
      have := incdec_u64_var 11 mm loc (i + 1 + idx) (by omega) (by have := (hE idx h).1; omega)
      simpa [P, Nat.add_assoc] using this)
    (fun idx h => by
      obtain ⟨hlt, hget⟩ := hE idx (by omega)
      have hne := firstG_before (entsOf (us.drop (i + 1))) g idx h
      rw [hget hlt] at hne
      unfold meLastBody
      rw [exec_ite_false (by simpa [hne] using hcond idx hlt)]
      exact exec_skip _ _)
    hfle
    (fun h => by
      obtain ⟨hlt, hget⟩ := hE _ h
      have hat := firstG_at (entsOf (us.drop (i + 1))) g h
      rw [hget hlt] at hat
      unfold meLastBody
      rw [exec_ite_true (by simpa [hat] using hcond _ hlt),
        exec_seq_normal (exec_assign_var (t := 8) (evalE_cast_lit .bool 0 _ (by decide) (by decide)) (show convert .bool (.int 0) = .ok (.int 0) from rfl)
          (by simp only [P, List.length_set]; omega))]
      exact exec_brk _ _)
    (by omega)
  refine ⟨i + 1 + firstG (entsOf (us.drop (i + 1))) g, ?_⟩
  have hP0 : P 0 = { mem := mm, loc := loc.set 11 (.int ((i + 1 : Nat) : Int)) } := rfl
  unfold meLastLoop
  rw [← hP0, hloop, ← hmodel]
  by_cases hfound : firstG (entsOf (us.drop (i + 1))) g < (entsOf (us.drop (i + 1))).length
  · simp [hfound]
  · rw [show firstG (entsOf (us.drop (i + 1))) g = (entsOf (us.drop (i + 1))).length by omega]
    simp [P]

def meSrc : Expr := .sidx (.load (.slot (.load (.var 2) .ptr) 0) .ptr) (.load (.var 6) .u64) 7
def meDst : Expr := .sidx (.load (.slot (.load (.var 1) .ptr) 0) .ptr) (.load (.var 5) .u64) 7
def meEtc (v : Nat) : Expr := .sidx (.load (.slot (.load (.var 3) .ptr) 0) .ptr) (.load (.var v) .u64) 7
/-- `(*fe)[merge_length] = cpy_file_entry(dest_kf, uf->file_entry[i])` -/
def meCopy : Stmt := .seq (.inl (some (.var 9)) .ptr (.cons (.load (.var 0) .ptr) (.cons meSrc .nil)) 3 LeafFns.cpy_file_entry.body)
  (.expr (.call "copy_words" (.cons meDst (.cons (.load (.var 9) .ptr) (.cons (.lit 7 .u64) .nil)))))
/-- `if (j < ef->length) { free(copy.value); copy.value = ef[j].value ? strdup(ef[j].value) : strdup(""); }` -/
def meOverride : Stmt := .ite (.bin .lt (.load (.var 10) .u64) (.load (.slot (.load (.var 3) .ptr) 1) .u64) .i32)
  (.seq (.expr (.call "free" (.cons (.load (.slot meDst 2) .ptr) .nil)))
    (.expr (.assign (.slot meDst 2) (.cond (.load (.slot (meEtc 10) 2) .ptr) (.call "strdup" (.cons (.load (.slot (meEtc 10) 2) .ptr) .nil))
      (.call "strdup" (.cons (.strlit []) .nil))) .ptr))) .skip
/-- the keys of this group that only the override defines -/
def meNewKeys : Stmt := .for (some (.bin .lt (.load (.var 10) .u64) (.load (.slot (.load (.var 3) .ptr) 1) .u64) .i32)) (some (.incdec (.var 10) true true .u64))
  (.ite (.un .lnot (.call "strcmp" (.cons (.load (.slot (meEtc 10) 0) .ptr) (.cons (.load (.var 7) .ptr) .nil))) .i32)
    (.seq (.inl (some (.var 14)) .bool (.cons (.load (.var 3) .ptr) (.cons (.load (.var 10) .u64) .nil)) 3 LeafFns.first_definition.body)
      (.ite (.cast .i32 (.load (.var 14) .bool))
        (.seq (.inl (some (.var 13)) .u64 (.cons (.load (.var 2) .ptr) (.cons (.load (.var 7) .ptr) (.cons (.load (.slot (meEtc 10) 1) .ptr) .nil))) 4 LeafFns.first_entry.body)
          (.ite (.bin .eq (.load (.var 13) .u64) (.load (.slot (.load (.var 2) .ptr) 1) .u64) .i32)
            (.seq (.inl (some (.var 12)) .ptr (.cons (.load (.var 0) .ptr) (.cons (meEtc 10) .nil)) 3 LeafFns.cpy_file_entry.body)
              (.expr (.call "copy_words" (.cons (.sidx (.load (.slot (.load (.var 1) .ptr) 0) .ptr) (.incdec (.var 5) true true .u64) 7)
                (.cons (.load (.var 12) .ptr) (.cons (.lit 7 .u64) .nil)))))) .skip)) .skip)) .skip)
def mnTest : Expr := kfTest 3 10
def mnAppend : Stmt := feAppend 12 (efAt 3 10) (.incdec (.var 5) true true .u64)
def mnInner2 : Stmt := .seq (.inl (some (.var 13)) .u64 (.cons (.load (.var 2) .ptr) (.cons (.load (.var 7) .ptr) (.cons (entField 3 10 1) .nil))) 4 LeafFns.first_entry.body)
  (.ite (.bin .eq (.load (.var 13) .u64) (.load (.slot (.load (.var 2) .ptr) 1) .u64) .i32) mnAppend .skip)
def mnInner1 : Stmt := .seq (.inl (some (.var 14)) .bool (.cons (.load (.var 3) .ptr) (.cons (.load (.var 10) .u64) .nil)) 3 LeafFns.first_definition.body)
  (.ite (.cast .i32 (.load (.var 14) .bool)) mnInner2 .skip)
def mnBody : Stmt := .ite (fieldIs 3 10 0 7) mnInner1 .skip

theorem meNewKeys_shape : meNewKeys = .for (some mnTest) (some (.incdec (.var 10) true true .u64)) mnBody := rfl

/-- one round of the outer loop -/
def meRound : Stmt :=
  .seq (.expr (.assign (.var 7) (.load (.slot meSrc 0) .ptr) .ptr))
  (.seq (.expr (.assign (.var 8) (.cast .bool (.lit 1 .i32)) .bool))
  (.seq (.inl (some (.var 9)) .ptr (.cons (.load (.var 0) .ptr) (.cons meSrc .nil)) 3 LeafFns.cpy_file_entry.body)
  (.seq (.expr (.call "copy_words" (.cons meDst (.cons (.load (.var 9) .ptr) (.cons (.lit 7 .u64) .nil)))))
  (.seq (.inl (some (.var 10)) .u64 (.cons (.load (.var 3) .ptr) (.cons (.load (.var 7) .ptr) (.cons (.load (.slot meSrc 1) .ptr) .nil))) 4 LeafFns.first_entry.body)
  (.seq meOverride
  (.seq (.expr (.incdec (.var 5) true true .u64))
  (.seq (.expr (.assign (.var 11) (.bin .add (.load (.var 6) .u64) (.cast .u64 (.lit 1 .i32)) .u64) .u64))
  (.seq meLastLoop
  (.seq (.ite (.un .lnot (.load (.var 8) .bool) .i32) .cont .skip)
  (.seq (.expr (.assign (.var 10) (.cast .u64 (.lit 0 .i32)) .u64)) meNewKeys))))))))))


/-- the generated `merge_existing_groups` is these pieces (so `me_last` is about a part of it) -/
theorem merge_existing_groups_shape : LeafFns.merge_existing_groups.body =
    .seq (.expr (.assign (.var 5) (.load (.var 4) .u64) .u64))
      (.seq (.ite (.land (.load (.var 2) .ptr) (.load (.var 3) .ptr))
          (.seq (.expr (.assign (.var 6) (.cast .u64 (.lit 0 .i32)) .u64))
            (.for (some (.bin .lt (.load (.var 6) .u64) (.load (.slot (.load (.var 2) .ptr) 1) .u64) .i32)) (some (.incdec (.var 6) true true .u64)) meRound)) .skip)
        (.ret (some (.load (.var 5) .u64)))) := rfl

/-- `merge_existing_groups` without a base or without an override: the count handed in is returned, the array is not touched
    (like `add_new_groups_null`) -/
theorem merge_existing_groups_null (fuel : Nat) (m : Mem) (a0 a1 a2 a3 : Val) (start : Nat) (hs : (start : Int) < 18446744073709551616)
    (h : a2 = .null ∨ (∃ b, a2 = .ptr b 0) ∧ a3 = .null) :
    exec fuel LeafFns.merge_existing_groups.body { mem := m, loc := [a0, a1, a2, a3, .int (start : Int)] ++ List.replicate 10 .undef } =
      .ret (.int (start : Int)) { mem := m, loc := [a0, a1, a2, a3, .int (start : Int), .int (start : Int)] ++ List.replicate 9 .undef } := by
  have wS : wrapTo .u64 (start : Int) = (start : Int) := wrapTo_u64_small _ (by omega) hs
  rw [merge_existing_groups_shape]
  rcases h with rfl | ⟨⟨b, rfl⟩, rfl⟩ <;>
    simp [mc_exec, mc_eval, testOf, convert, wS, truth, boolVal]

/-- the array under construction, whatever the frame of the loop that fills it: `start` entries were there, the copies of `sel`
    stand behind them, the destination lists their groups, everything else of the memory `m0` is as it was -/
structure ArrInv (m0 : Mem) (bk bl0 fa : Nat) (names0 : List (List UInt8)) (gl0len cap start : Nat) (ablk0 : Block)
    (sel : List Econf.Entry) (mem : Mem) : Prop where
  agree : ∀ b, b < m0.length → b ∉ [bk, bl0, fa] → mem[b]? = m0[b]?
  grows : m0.length ≤ mem.length
  dest : ∃ bl' gl', GlMem mem bk bl' gl' ∧ (bl' = bl0 ∨ m0.length ≤ bl') ∧ (∀ kb blk, m0[bk]? = some kb → mem[bk]? = some blk → KfKeep kb blk) ∧ (gl' ≠ [] → bk ≠ bl') ∧
      (∀ x, x ∈ gl' → x.1 ≠ bk ∧ x.1 ≠ bl') ∧ gl'.length ≤ gl0len + sel.length ∧
      gl'.map (·.2) = (sel.map (·.group)).foldl Econf.addGroup names0 ∧
      ∀ j (h : j < sel.length), EntMem mem fa (7 * (start + j)) (Econf.cpyEntry (sel[j])) [bk, bl']
  arr : ∃ ablk, mem[fa]? = some ablk ∧ ablk.live = true ∧ ablk.writable = true ∧ ablk.cells = [] ∧ ablk.slots.length = 7 * cap ∧
      ∀ k, k < 7 * start → ablk.slots[k]? = ablk0.slots[k]?

/-- the invariant is `ArrSt` with the names the copied entries add to `names0` -/
theorem ArrInv.iff {m0 : Mem} {bk bl0 fa : Nat} {names0 : List (List UInt8)} {gl0len cap start : Nat} {ablk0 : Block} {sel : List Econf.Entry} {mem : Mem} :
    ArrInv m0 bk bl0 fa names0 gl0len cap start ablk0 sel mem ↔
      ArrSt m0 bk bl0 fa gl0len cap start ablk0 sel ((sel.map (·.group)).foldl Econf.addGroup names0) mem :=
  ⟨fun h => ⟨h.agree, h.grows, h.dest, h.arr⟩, fun h => ⟨h.agree, h.grows, h.dest, h.arr⟩⟩

theorem ArrInv.frame {m0 : Mem} {bk bl0 fa : Nat} {names0 : List (List UInt8)} {gl0len cap start : Nat} {ablk0 : Block} {sel : List Econf.Entry} {mem : Mem}
    (h : ArrInv m0 bk bl0 fa names0 gl0len cap start ablk0 sel mem) (mem' : Mem)
    (hm : ∀ b, b < mem.length → mem'[b]? = mem[b]?) (hlen : mem.length ≤ mem'.length) (hfa : fa < m0.length) (hbk : bk < m0.length) :
    ArrInv m0 bk bl0 fa names0 gl0len cap start ablk0 sel mem' :=
  ArrInv.iff.2 ((ArrInv.iff.1 h).frame mem' hm hlen hfa hbk)

/-- where the array lives: the caller's cell `*fe` points to it, cell and array are apart from the destination and older than the loop;
    part of `MnCtx` and `MeCtx` (`NgCtx` and `AgCtx` of the other two functions list the same facts themselves) -/
structure ArrCtx (m0 : Mem) (bk bl0 fa cell : Nat) (gl0len cap : Nat) : Prop where
  cellb : ∃ cblk, m0[cell]? = some cblk ∧ cblk.live = true ∧ cblk.slots[0]? = some (.ptr fa 0)
  cellav : cell ∉ [bk, bl0, fa]
  fa_lt : fa < m0.length
  bk_lt : bk < m0.length
  bl_lt : bl0 < m0.length
  fa_ne : fa ≠ bk ∧ fa ≠ bl0

/-- the append step in any frame: `(*fe)[start + |sel|] = cpy_file_entry(dest_kf, src)` extends the invariant by the source entry -/
theorem ArrInv.append {m0 : Mem} {bk bl0 fa cell : Nat} {names0 : List (List UInt8)} {gl0len cap start : Nat} {ablk0 : Block} {sel : List Econf.Entry} {M : Mem}
    (h : ArrInv m0 bk bl0 fa names0 gl0len cap start ablk0 sel M) (C : ArrCtx m0 bk bl0 fa cell gl0len cap)
    (bs os : Nat) (e : Econf.Entry) (hE0 : EntMem m0 bs os e [bk, bl0, fa])
    (loc loc2 : List Val) (srcE idxE : Expr) (t : Nat)
    (hroom : start + sel.length < cap) (hsmall : (gl0len : Int) + sel.length + 2 < 2147483648) (hline : (e.line : Int) < 18446744073709551616)
    (fuel : Nat) (hf : gl0len + sel.length + 1 < fuel)
    (hl0 : loc[0]? = some (.ptr bk 0)) (hl1 : loc[1]? = some (.ptr cell 0)) (ht : t < loc.length) (ht1 : t ≠ 1)
    (hsrc : evalE srcE { mem := M, loc := loc } = .ok (.ptr bs (os : Int), { mem := M, loc := loc }))
    (hidx : ∀ mm, evalE idxE { mem := mm, loc := loc.set t (.ptr M.length 0) } = .ok (.int ((start + sel.length : Nat) : Int), { mem := mm, loc := loc2 }))
    (hl2t : loc2[t]? = some (.ptr M.length 0)) :
    ∃ m', exec fuel (.seq (.inl (some (.var t)) .ptr (.cons (.load (.var 0) .ptr) (.cons srcE .nil)) 3 LeafFns.cpy_file_entry.body)
          (.expr (.call "copy_words" (.cons (.sidx (.load (.slot (.load (.var 1) .ptr) 0) .ptr) idxE 7) (.cons (.load (.var t) .ptr) (.cons (.lit 7 .u64) .nil))))))
        { mem := M, loc := loc } = .normal { mem := m', loc := loc2 } ∧
      ArrInv m0 bk bl0 fa names0 gl0len cap start ablk0 (sel ++ [e]) m' ∧ M.length ≤ m'.length ∧
      -- the value of the new element has a block of its own, made in this step
      (∀ bv, m'.loadSlot fa (((7 * (start + sel.length) : Nat) : Int) + 2) = .ok (.ptr bv 0) → M.length < bv ∧
        (∀ k : Nat, k < 5 → k ≠ 2 → m'.loadSlot fa (((7 * (start + sel.length) : Nat) : Int) + (k : Int)) ≠ .ok (.ptr bv 0)) ∧
        ∀ bl3 gl3, GlMem m' bk bl3 gl3 → bl3 ≠ bv ∧ ∀ x, x ∈ gl3 → x.1 ≠ bv) ∧
      (∀ b, b < M.length → b ≠ bk → b ∉ [bk, bl0, fa] → (∀ bl3 gl3, GlMem M bk bl3 gl3 → b ≠ bl3) → m'[b]? = M[b]?) ∧
      (∀ ablkM ablk', M[fa]? = some ablkM → m'[fa]? = some ablk' → ∀ k, k < 7 * (start + sel.length) → ablk'.slots[k]? = ablkM.slots[k]?) := by
  obtain ⟨m', hex, hS, rest⟩ := (ArrInv.iff.1 h).append C.cellb C.cellav C.fa_lt C.bk_lt C.fa_ne bs os e hE0 loc loc2 srcE idxE t
    hroom hsmall hline fuel hf hl0 hl1 ht ht1 hsrc hidx hl2t
  refine ⟨m', hex, ArrInv.iff.2 ?_, rest⟩
  rw [List.map_append, List.foldl_append]
  exact hS

theorem firstIdx_eq_length_iff (es : List Econf.Entry) (g k : List UInt8) :
    firstIdx (entsOf es) g k = es.length ↔ Econf.defines es g k = false := by
  have hl : (entsOf es).length = es.length := by simp [entsOf]
  have hget : ∀ i (h : i < es.length), (entsOf es)[i]'(by rw [hl]; exact h) = ((es[i]).group, (es[i]).key) := by
    intro i h; simp [entsOf]
  constructor
  · intro hf
    cases hd : Econf.defines es g k with
    | false => rfl
    | true =>
      simp only [Econf.defines, List.any_eq_true, Bool.and_eq_true, beq_iff_eq] at hd
      obtain ⟨x, hx, h1, h2⟩ := hd
      obtain ⟨i, hi, rfl⟩ := List.getElem_of_mem hx
      have := firstIdx_before (entsOf es) g k i (by rw [hf]; exact hi)
      rw [hget i hi] at this
      exact absurd ⟨h1, h2⟩ this
  · intro hd
    have hle := firstIdx_le (entsOf es) g k
    by_cases hlt : firstIdx (entsOf es) g k < es.length
    · have hat := firstIdx_at (entsOf es) g k (by rw [hl]; exact hlt)
      rw [hget _ hlt] at hat
      have : Econf.defines es g k = true := by
        simp only [Econf.defines, List.any_eq_true, Bool.and_eq_true, beq_iff_eq]
        exact ⟨_, List.getElem_mem hlt, hat.1, hat.2⟩
      rw [hd] at this; exact absurd this (by simp)
    · omega

/-- which entries of the override the inner loop of `merge_existing_groups` copies for group `g` -/
def mnP (us : List Econf.Entry) (g : List UInt8) (e : Econf.Entry) : Bool := e.group == g && !Econf.defines us g e.key

theorem mnSel_model (us es : List Econf.Entry) (g : List UInt8) : (selBy (mnP us g) es es.length).map Econf.cpyEntry = Econf.newKeysOf us es g := by
  unfold Econf.newKeysOf
  rw [selBy_model]
  rfl

abbrev meLoc (bk cell bu be start cnt i bg : Nat) (v8 v9 : Val) (j : Nat) (v11 v12 v13 v14 : Val) : List Val :=
  [.ptr bk 0, .ptr cell 0, .ptr bu 0, .ptr be 0, .int (start : Int), .int (cnt : Int), .int (i : Int), .ptr bg 0, v8, v9, .int (j : Int), v11, v12, v13, v14]

/-- the inner loop reads the override `es`, the base `us` and the group name `g` (block `bg`, the value of `group`) in the memory `m0`
    of the function's start; `cnt0` is `merge_length` when the loop starts -/
structure MnCtx (m0 : Mem) (bk bl0 fa cell bu bua be bea bg : Nat) (us es : List Econf.Entry) (g : List UInt8) (gl0len cap cnt0 : Nat) : Prop where
  arr : ArrCtx m0 bk bl0 fa cell gl0len cap
  src : SrcMem m0 be bea es [bk, bl0, fa]
  usr : SrcMem m0 bu bua us [bk, bl0, fa]
  grp : m0.cstr bg 0 = .ok g
  grpav : bg ∉ [bk, bl0, fa]
  small : (gl0len : Int) + es.length + 2 < 2147483648
  usmall : (us.length : Int) + 1 < 18446744073709551616
  ssmall : (cnt0 : Int) + es.length + 1 < 18446744073709551616
  lines : ∀ e ∈ es, (e.line : Int) < 18446744073709551616

/-- the state of the inner loop before round `j`: the array held `astart` entries when the function was called, the function has added
    `pre` so far (`cnt0 = astart + pre.length` is `merge_length` at the start of the loop), this loop has added `sel`; the frame is `meLoc`
    with `merge_length = cnt0 + sel.length` and `j` in variable 10 -/
def MnInv (m0 : Mem) (bk bl0 fa cell bu be bg : Nat) (names0 : List (List UInt8)) (gl0len cap cnt0 astart : Nat) (pre : List Econf.Entry) (ablk0 : Block)
    (start i : Nat) (v8 v9 v11 : Val) (sel : List Econf.Entry) (j : Nat) (st : St) : Prop :=
  (∃ v12 v13 v14, st.loc = meLoc bk cell bu be start (cnt0 + sel.length) i bg v8 v9 j v11 v12 v13 v14) ∧
  ArrInv m0 bk bl0 fa names0 gl0len cap astart ablk0 (pre ++ sel) st.mem

/-- the body of the inner loop on entry `j` of the override: a first definition, in the group `g`, of a key the base does not define there
    is appended, any other entry is passed over -/
theorem mn_body (fuel : Nat) (mm : Mem) (bk cell bu bua be bea bg : Nat) (us es : List Econf.Entry) (av av' : List Nat) (g : List UInt8)
    (start cnt i j : Nat) (v8 v9 v11 v12 v13 v14 : Val)
    (hS : SrcMem mm be bea es av) (hU : SrcMem mm bu bua us av') (hg : mm.cstr bg 0 = .ok g) (hj : j < es.length)
    (hsmall : (es.length : Int) + 1 < 18446744073709551616) (husmall : (us.length : Int) + 1 < 18446744073709551616)
    (hf : es.length < fuel) (hfu : us.length < fuel) :
    if (mnP us g es[j] && (firstIdx (entsOf es) (es[j]).group (es[j]).key == j)) = true then
      ∃ w13, exec fuel mnBody { mem := mm, loc := meLoc bk cell bu be start cnt i bg v8 v9 j v11 v12 v13 v14 } =
        exec fuel mnAppend { mem := mm, loc := meLoc bk cell bu be start cnt i bg v8 v9 j v11 v12 w13 (.int 1) }
    else ∃ w13 w14, exec fuel mnBody { mem := mm, loc := meLoc bk cell bu be start cnt i bg v8 v9 j v11 v12 v13 v14 } =
        .normal { mem := mm, loc := meLoc bk cell bu be start cnt i bg v8 v9 j v11 v12 w13 w14 } := by
  have hcond := ef_group_eq 3 10 7 mm (meLoc bk cell bu be start cnt i bg v8 v9 j v11 v12 v13 v14) be bea bg es _ j g hS hj rfl rfl rfl hg
  unfold mnBody mnInner1 mnInner2 fieldIs entField
  by_cases hgj : (es[j]).group = g
  · rw [exec_ite_true (by simpa [hgj] using hcond)]
    have hfd := ef_first_definition 3 10 14 fuel mm (meLoc bk cell bu be start cnt i bg v8 v9 j v11 v12 v13 v14) be bea es _ j hS hj rfl rfl (by simp) hsmall hf
    by_cases hfirst : firstIdx (entsOf es) (es[j]).group (es[j]).key = j
    · simp only [hfirst, if_true] at hfd
      rw [exec_seq_normal hfd, exec_ite_true (test_flag 14 mm _ 1 rfl (Or.inr rfl))]
      -- `first_entry(uf, group, ef->file_entry[j].key)`
      obtain ⟨bq, q1, q2, _⟩ := (hS.ents j hj).key
      have hkey := ef_member 3 10 mm ((meLoc bk cell bu be start cnt i bg v8 v9 j v11 v12 v13 v14).set 14 (.int 1)) be bea es _ j 1 (.ptr bq 0) hS hj rfl rfl (by simpa using q1)
      have hfe := call_first_entry fuel 2 7 13 _ mm _ bu bua bg bq us _ g (es[j]).key hU rfl rfl hkey hg q2 (by simp) husmall hfu
      have hteq := ef_len_eq 2 13 mm (((meLoc bk cell bu be start cnt i bg v8 v9 j v11 v12 v13 v14).set 14 (.int 1)).set 13 (.int ((firstIdx (entsOf us) g (es[j]).key : Nat) : Int)))
        bu bua us _ _ hU rfl rfl
      rw [exec_seq_normal hfe]
      have hdef := firstIdx_eq_length_iff us g (es[j]).key
      by_cases hnew : firstIdx (entsOf us) g (es[j]).key = us.length
      · rw [if_pos (by simp [mnP, hgj, hdef.1 hnew, hgj ▸ hfirst]), exec_ite_true (by rw [hteq, decide_eq_true hnew])]
        exact ⟨_, rfl⟩
      · have hdt : Econf.defines us g (es[j]).key = true := by
          cases hd : Econf.defines us g (es[j]).key with
          | true => rfl
          | false => exact absurd (hdef.2 hd) hnew
        rw [if_neg (by simp [mnP, hdt]), exec_ite_false (by rw [hteq, decide_eq_false hnew])]
        exact ⟨_, _, exec_skip _ _⟩
    · simp only [hfirst, if_false] at hfd
      rw [if_neg (by simp [hfirst]), exec_seq_normal hfd, exec_ite_false (test_flag 14 mm _ 0 rfl (Or.inl rfl))]
      exact ⟨v13, _, exec_skip _ _⟩
  · rw [if_neg (by simp [mnP, hgj]), exec_ite_false (by simpa [hgj] using hcond)]
    exact ⟨v13, v14, exec_skip _ _⟩

/-- one round of `for (j = 0; j < ef->length; j++)`: entry `j` of the override is appended if `mnP` selects it -/
theorem mn_round {m0 : Mem} {bk bl0 fa cell bu bua be bea bg : Nat} {us es : List Econf.Entry} {g : List UInt8} {names0 : List (List UInt8)} {gl0len cap cnt0 : Nat}
    {ablk0 : Block} {start i : Nat} {v8 v9 v11 : Val} {astart : Nat} {pre : List Econf.Entry}
    (C : MnCtx m0 bk bl0 fa cell bu bua be bea bg us es g gl0len cap cnt0) (hcnt : cnt0 = astart + pre.length)
    (hpsmall : (gl0len : Int) + pre.length + es.length + 2 < 2147483648)
    (hroomT : astart + pre.length + (selBy (mnP us g) es es.length).length ≤ cap) (fuel : Nat) (hf : gl0len + pre.length + es.length + us.length + 2 < fuel)
    (j : Nat) (hj : j < es.length) (st : St) (h : MnInv m0 bk bl0 fa cell bu be bg names0 gl0len cap cnt0 astart pre ablk0 start i v8 v9 v11 (selBy (mnP us g) es j) j st) :
    ∃ T Q st', testOf (some mnTest) st = .ok (true, T) ∧ (exec fuel mnBody T = .normal Q ∨ exec fuel mnBody T = .cont Q) ∧
      stepOf (some (.incdec (.var 10) true true .u64)) Q = .ok st' ∧
      MnInv m0 bk bl0 fa cell bu be bg names0 gl0len cap cnt0 astart pre ablk0 start i v8 v9 v11 (selBy (mnP us g) es (j + 1)) (j + 1) st' := by
  obtain ⟨⟨v12, v13, v14, hloc⟩, hA⟩ := h
  obtain ⟨mem, loc⟩ := st
  simp only at hloc hA; subst hloc
  have hsm := C.small
  have hss := C.ssmall
  have hus := C.usmall
  have ha_le : (selBy (mnP us g) es j).length ≤ j := selBy_length_le _ es j
  obtain ⟨hsmallstep, hesmall, hfe, hfu⟩ : (j : Int) + 1 < 18446744073709551616 ∧ (es.length : Int) + 1 < 18446744073709551616 ∧
      es.length < fuel ∧ us.length < fuel := by omega
  have hS : SrcMem mem be bea es [bk, bl0, fa] := C.src.mono hA.agree
  have hgm : mem.cstr bg 0 = .ok g := by rw [cstr_congr (hA.agree bg (cstr_lt C.grp) C.grpav)]; exact C.grp
  have htest := ef_test 3 10 mem (meLoc bk cell bu be start (cnt0 + (selBy (mnP us g) es j).length) i bg v8 v9 j v11 v12 v13 v14) be bea es _ j hS rfl rfl
  simp only [hj, decide_true] at htest
  have hstep : ∀ mm c w12 w13 w14, stepOf (some (.incdec (.var 10) true true .u64)) { mem := mm, loc := meLoc bk cell bu be start c i bg v8 v9 j v11 w12 w13 w14 } =
      .ok { mem := mm, loc := meLoc bk cell bu be start c i bg v8 v9 (j + 1) v11 w12 w13 w14 } :=
    fun mm c w12 w13 w14 => stepOf_some _ _ _ _ (incdec_u64_eval 10 mm _ j rfl hsmallstep)
  have hbody := mn_body fuel mem bk cell bu bua be bea bg us es _ _ g start (cnt0 + (selBy (mnP us g) es j).length) i j v8 v9 v11 v12 v13 v14
    hS (C.usr.mono hA.agree) hgm hj hesmall hus hfe hfu
  have hmono := selBy_length_mono (mnP us g) es (i := j + 1) (n := es.length) hj
  rw [selBy_succ _ es j hj] at hmono ⊢
  by_cases hsel : (mnP us g es[j] && (firstIdx (entsOf es) (es[j]).group (es[j]).key == j)) = true
  · -- a key of this group that only the override defines: copied
    rw [if_pos hsel] at hbody hmono ⊢
    obtain ⟨w13, hbody⟩ := hbody
    rw [List.length_append, List.length_singleton] at hmono
    have hpl : (pre ++ selBy (mnP us g) es j).length = pre.length + (selBy (mnP us g) es j).length := List.length_append
    obtain ⟨r1, r2, r3, r4, r5⟩ : astart + (pre ++ selBy (mnP us g) es j).length < cap ∧
        (gl0len : Int) + (pre ++ selBy (mnP us g) es j).length + 2 < 2147483648 ∧ gl0len + (pre ++ selBy (mnP us g) es j).length + 1 < fuel ∧
        astart + (pre ++ selBy (mnP us g) es j).length = cnt0 + (selBy (mnP us g) es j).length ∧
        ((cnt0 + (selBy (mnP us g) es j).length : Nat) : Int) + 1 < 18446744073709551616 := by omega
    obtain ⟨m', hex, hA', _⟩ := hA.append C.arr bea (7 * j) es[j] (C.src.ents j hj)
      (meLoc bk cell bu be start (cnt0 + (selBy (mnP us g) es j).length) i bg v8 v9 j v11 v12 w13 (.int 1))
      (meLoc bk cell bu be start (cnt0 + (selBy (mnP us g) es j).length + 1) i bg v8 v9 j v11 (.ptr mem.length 0) w13 (.int 1))
      (efAt 3 10) (.incdec (.var 5) true true .u64) 12 r1 r2 (C.lines _ (List.getElem_mem hj)) fuel r3 rfl rfl (by simp) (by decide)
      (ef_src 3 10 _ _ be bea es _ j hS (Nat.le_of_lt hj) rfl rfl)
      (fun mm => by rw [r4]; exact incdec_u64_eval 5 mm _ _ rfl r5) rfl
    refine ⟨_, _, _, htest, Or.inl (hbody.trans hex), hstep _ _ _ _ _, ⟨.ptr mem.length 0, w13, .int 1, ?_⟩, by rw [← List.append_assoc]; exact hA'⟩
    rw [List.length_append, List.length_singleton, ← Nat.add_assoc]
  · rw [if_neg hsel] at hbody ⊢
    rw [List.append_nil]
    obtain ⟨w13, w14, hb⟩ := hbody
    exact ⟨_, _, _, htest, Or.inl hb, hstep _ _ _ _ _, ⟨v12, w13, w14, rfl⟩, hA⟩

/-- the inner loop of `merge_existing_groups` that appends, behind the last entry of a group of the base, the keys of that group which only
    the override defines: on the generated term, from any state of the array (`astart` entries before, then `pre`), it appends the copies of
    exactly the entries the model selects (`selBy (mnP us g)`), counts them into `merge_length` and keeps the invariant of the array -/
theorem me_newkeys_inv {m0 : Mem} {bk bl0 fa cell bu bua be bea bg : Nat} {us es : List Econf.Entry} {g : List UInt8} {names0 : List (List UInt8)} {gl0len cap cnt0 : Nat}
    {ablk0 : Block} {astart : Nat} {pre : List Econf.Entry} (start i : Nat) (v8 v9 v11 v12 v13 v14 : Val)
    (C : MnCtx m0 bk bl0 fa cell bu bua be bea bg us es g gl0len cap cnt0) (hcnt : cnt0 = astart + pre.length)
    (hpsmall : (gl0len : Int) + pre.length + es.length + 2 < 2147483648)
    (hroomT : astart + pre.length + (selBy (mnP us g) es es.length).length ≤ cap) (fuel : Nat) (hf : gl0len + pre.length + es.length + us.length + 2 < fuel)
    (mem : Mem) (h : ArrInv m0 bk bl0 fa names0 gl0len cap astart ablk0 pre mem) :
    ∃ mem' w12 w13 w14, exec fuel meNewKeys { mem := mem, loc := meLoc bk cell bu be start cnt0 i bg v8 v9 0 v11 v12 v13 v14 } =
        .normal { mem := mem', loc := meLoc bk cell bu be start (cnt0 + (selBy (mnP us g) es es.length).length) i bg v8 v9 es.length v11 w12 w13 w14 } ∧
      ArrInv m0 bk bl0 fa names0 gl0len cap astart ablk0 (pre ++ selBy (mnP us g) es es.length) mem' := by
  have hsel0 : selBy (mnP us g) es 0 = [] := by simp [selBy]
  have h0 : MnInv m0 bk bl0 fa cell bu be bg names0 gl0len cap cnt0 astart pre ablk0 start i v8 v9 v11 (selBy (mnP us g) es 0) 0
      { mem := mem, loc := meLoc bk cell bu be start cnt0 i bg v8 v9 0 v11 v12 v13 v14 } := by
    rw [hsel0]; exact ⟨⟨v12, v13, v14, by simp⟩, by simpa using h⟩
  rw [meNewKeys_shape, exec_for]
  obtain ⟨R, hloop, ⟨w12, w13, w14, hlocR⟩, hAR⟩ := loop_inv _ _ _
    (fun st => MnInv m0 bk bl0 fa cell bu be bg names0 gl0len cap cnt0 astart pre ablk0 start i v8 v9 v11 (selBy (mnP us g) es es.length) es.length st) es.length
    (fun j st => MnInv m0 bk bl0 fa cell bu be bg names0 gl0len cap cnt0 astart pre ablk0 start i v8 v9 v11 (selBy (mnP us g) es j) j st)
    (fun j st hj hinv => mn_round C hcnt hpsmall hroomT fuel hf j hj st hinv)
    (fun st hinv => by
      obtain ⟨⟨x12, x13, x14, hloc⟩, hA⟩ := hinv
      obtain ⟨mm, loc⟩ := st
      simp only at hloc hA; subst hloc
      have hS : SrcMem mm be bea es [bk, bl0, fa] := C.src.mono hA.agree
      have htest := ef_test 3 10 mm (meLoc bk cell bu be start (cnt0 + (selBy (mnP us g) es es.length).length) i bg v8 v9 es.length v11 x12 x13 x14) be bea es _ es.length hS rfl rfl
      simp only [Nat.lt_irrefl, decide_false] at htest
      exact ⟨_, htest, ⟨⟨x12, x13, x14, rfl⟩, hA⟩⟩)
    _ fuel h0 (by omega)
  obtain ⟨memR, locR⟩ := R
  simp only at hlocR hAR; subst hlocR
  exact ⟨memR, w12, w13, w14, hloop, hAR⟩

/-- … from an array with `cnt0` entries: exactly the model's `newKeysOf us es g` is appended -/
theorem C_me_newkeys {m0 : Mem} {bk bl0 fa cell bu bua be bea bg : Nat} {us es : List Econf.Entry} {g : List UInt8} {names0 : List (List UInt8)} {gl0len cap cnt0 : Nat}
    {ablk0 : Block} (start i : Nat) (v8 v9 v11 v12 v13 v14 : Val)
    (C : MnCtx m0 bk bl0 fa cell bu bua be bea bg us es g gl0len cap cnt0) (hroom : cnt0 + es.length ≤ cap) (fuel : Nat) (hf : gl0len + es.length + us.length + 2 < fuel)
    (mem : Mem) (h : ArrInv m0 bk bl0 fa names0 gl0len cap cnt0 ablk0 [] mem) :
    ∃ mem' w12 w13 w14, exec fuel meNewKeys { mem := mem, loc := meLoc bk cell bu be start cnt0 i bg v8 v9 0 v11 v12 v13 v14 } =
        .normal { mem := mem', loc := meLoc bk cell bu be start (cnt0 + (Econf.newKeysOf us es g).length) i bg v8 v9 es.length v11 w12 w13 w14 } ∧
      (∃ bl' gl', GlMem mem' bk bl' gl' ∧
        gl'.map (·.2) = ((Econf.newKeysOf us es g).map (·.group)).foldl Econf.addGroup names0 ∧
        ∀ j (hj : j < (Econf.newKeysOf us es g).length), EntMem mem' fa (7 * (cnt0 + j)) ((Econf.newKeysOf us es g)[j]) [bk, bl']) ∧
      (∃ ablk, mem'[fa]? = some ablk ∧ ablk.live = true ∧ ∀ k, k < 7 * cnt0 → ablk.slots[k]? = ablk0.slots[k]?) ∧
      (∀ b, b < m0.length → b ∉ [bk, bl0, fa] → mem'[b]? = m0[b]?) := by
  have hsm := C.small
  obtain ⟨memR, w12, w13, w14, hloop, hAR⟩ := me_newkeys_inv (astart := cnt0) (pre := []) start i v8 v9 v11 v12 v13 v14 C (by simp) (by simpa using hsm)
    (by have := selBy_length_le (mnP us g) es es.length; simp; omega) fuel (by simpa using hf) mem h
  simp only [List.nil_append] at hAR
  have hm := mnSel_model us es g
  have hlen : (Econf.newKeysOf us es g).length = (selBy (mnP us g) es es.length).length := by rw [← hm]; simp
  have hgrp : (Econf.newKeysOf us es g).map (·.group) = (selBy (mnP us g) es es.length).map (·.group) := by
    rw [← hm, List.map_map]
    apply List.map_congr_left
    intro e _
    simp [Econf.cpyEntry]
  obtain ⟨bl', gl', d1, d2, d3, d4, d5, d6, d7, d8⟩ := hAR.dest
  obtain ⟨ablk, a1, a2, a3, a4, a5, a6⟩ := hAR.arr
  refine ⟨memR, w12, w13, w14, by rw [hlen]; exact hloop, ⟨bl', gl', d1, by rw [hgrp]; exact d7, ?_⟩, ⟨ablk, a1, a2, a6⟩, hAR.agree⟩
  intro j hj
  have hj' : j < (selBy (mnP us g) es es.length).length := by omega
  have : (Econf.newKeysOf us es g)[j] = Econf.cpyEntry ((selBy (mnP us g) es es.length)[j]) := by simp [← hm]
  rw [this]; exact d8 j hj'

/-- `first_entry` in terms of the model's `findEntry` -/
theorem findEntry_eq (es : List Econf.Entry) (g k : List UInt8) :
    Econf.findEntry es g k = es[firstIdx (entsOf es) g k]? := by
  induction es with
  | nil => simp [Econf.findEntry, firstIdx, entsOf]
  | cons e es ih =>
    by_cases hm : (e.group == g && e.key == k) = true
    · have hn : (!(e.group == g) || !(e.key == k)) = false := by
        have := hm; simp only [Bool.and_eq_true] at this; simp [this.1, this.2]
      simp [Econf.findEntry, firstIdx, entsOf, hm, hn, List.find?]
    · have hm' : (e.group == g && e.key == k) = false := by simpa using hm
      have hn : (!(e.group == g) || !(e.key == k)) = true := by
        cases h1 : (e.group == g) <;> cases h2 : (e.key == k) <;> simp_all
      have hf : firstIdx (entsOf (e :: es)) g k = firstIdx (entsOf es) g k + 1 := by
        simp [firstIdx, entsOf, hn]
      rw [hf]
      simp only [Econf.findEntry, List.find?, hm', List.getElem?_cons_succ]
      exact ih

/-- the new value: `src ? strdup(src) : strdup("")` -/
theorem me_newval (LD : Expr) (M : Mem) (loc : List Val) (w : Val) (so : Option (List UInt8))
    (hw : ∀ mm, (∀ b, b < M.length → mm[b]? = M[b]?) → evalE LD { mem := mm, loc := loc } = .ok (w, { mem := mm, loc := loc })) (hso : OptStr M w so) :
    ∃ M' bn, evalE (.cond LD (.call "strdup" (.cons LD .nil)) (.call "strdup" (.cons (.strlit []) .nil))) { mem := M, loc := loc } =
        .ok (.ptr bn 0, { mem := M', loc := loc }) ∧
      M'.cstr bn 0 = .ok (so.getD []) ∧ M.length ≤ bn ∧ bn < M'.length ∧ M.length ≤ M'.length ∧ (∀ b, b < M.length → M'[b]? = M[b]?) := by
  have hw0 := hw M (fun b _ => rfl)
  cases hso with
  | none =>
    -- `strdup("")`
    obtain ⟨m1, hsd, hmb, hfr, _⟩ := strdup_lit M loc [] (by simp)
    have hlt := hmb.lt_length
    refine ⟨m1, M.length + 1, ?_, by simpa using hmb.cstr0 (pre := []) (rest := []) (by simp), by omega, hlt, by omega, hfr⟩
    simp only [mc_eval, hw0, truth]
    exact hsd
  | some b s hc =>
    obtain ⟨m1, hsd, hmb, hlen, hfr⟩ := strdup_spec M b 0 s hc
    refine ⟨m1, M.length, ?_, ?_, Nat.le_refl _, by omega, by omega, hfr⟩
    · simp only [mc_eval, hw0, truth, hsd]
      rfl
    · simpa using hmb.cstr0 (rest := []) (cstr_nz hc)

/-- the invariant sees the selected entries through their copies and their groups only -/
theorem ArrInv.congr {m0 : Mem} {bk bl0 fa : Nat} {names0 : List (List UInt8)} {gl0len cap start : Nat} {ablk0 : Block} {sel sel' : List Econf.Entry} {mem : Mem}
    (h : ArrInv m0 bk bl0 fa names0 gl0len cap start ablk0 sel mem) (hc : sel'.map Econf.cpyEntry = sel.map Econf.cpyEntry) :
    ArrInv m0 bk bl0 fa names0 gl0len cap start ablk0 sel' mem := by
  have hl : sel'.length = sel.length := by simpa using congrArg List.length hc
  have hg : sel'.map (·.group) = sel.map (·.group) := by
    have := congrArg (List.map (·.group)) hc
    simpa [List.map_map, Function.comp_def, Econf.cpyEntry] using this
  obtain ⟨bl', gl', d1, d2, d3, d4, d5, d6, d7, d8⟩ := h.dest
  refine ⟨h.agree, h.grows, ⟨bl', gl', d1, d2, d3, d4, d5, by rw [hl]; exact d6, by rw [hg]; exact d7, fun j hj => ?_⟩, h.arr⟩
  have hj' : j < sel.length := by omega
  have : Econf.cpyEntry sel'[j] = Econf.cpyEntry sel[j] := by
    have h1 : (sel'.map Econf.cpyEntry)[j]? = (sel.map Econf.cpyEntry)[j]? := by rw [hc]
    simpa [hj, hj'] using h1
  rw [this]; exact d8 j hj'

/-- `&(*fe)[merge_length]` -/
theorem dst_eval (mm : Mem) (loc : List Val) (cell fa a : Nat) (cblk ablk : Block) (hl1 : loc[1]? = some (.ptr cell 0)) (hl5 : loc[5]? = some (.int (a : Int)))
    (hc1 : mm[cell]? = some cblk) (hc2 : cblk.live = true) (hc3 : cblk.slots[0]? = some (.ptr fa 0))
    (ha1 : mm[fa]? = some ablk) (ha2 : ablk.live = true) (ha : 7 * a ≤ ablk.slots.length) :
    evalE meDst { mem := mm, loc := loc } = .ok (.ptr fa ((7 * a : Nat) : Int), { mem := mm, loc := loc }) := by
  have hl0 : mm.loadSlot cell 0 = .ok (.ptr fa 0) := by simpa using loadSlot_of (i := 0) hc1 hc2 hc3 (by simp)
  have hsx : slotAdd mm fa 0 ((a : Int) * 7) = .ok (.ptr fa ((a : Int) * 7)) := by
    have : (0 : Int) ≤ (a : Int) * 7 ∧ (a : Int) * 7 ≤ (ablk.slots.length : Int) := by omega
    simp [mc_eval, slotAdd, Mem.block, ha1, ha2, this]
  have e : (((7 * a : Nat)) : Int) = (a : Int) * 7 := by omega
  rw [e]
  exact evalE_sidx_of _ _ _ _ fa 0 (a : Int) 7 _ (by simp [mc_eval, hl1, hl0])
    (by simp [mc_eval, hl5]) (by simpa using hsx)

/-- `free(p)` for a member that is `NULL` or a string of its own: only that string's block changes -/
theorem free_optstr (fuel : Nat) (E : Expr) (M : Mem) (loc : List Val) (v : Val) (so : Option (List UInt8))
    (hE : evalE E { mem := M, loc := loc } = .ok (v, { mem := M, loc := loc })) (hv : OptStr M v so) :
    ∃ M2, exec fuel (.expr (.call "free" (.cons E .nil))) { mem := M, loc := loc } = .normal { mem := M2, loc := loc } ∧
      M2.length = M.length ∧ ∀ b, (∀ bv, v = .ptr bv 0 → b ≠ bv) → M2[b]? = M[b]? := by
  cases hv with
  | none =>
    refine ⟨M, ?_, rfl, fun b _ => rfl⟩
    simp [mc_exec, mc_eval, hE, builtin_free_null]
  | some bv str hc =>
    obtain ⟨vblk, w1, w2⟩ : ∃ vblk, M[bv]? = some vblk ∧ vblk.live = true := by
      cases hb : M[bv]? with
      | none => simp [mc_eval, Mem.cstr, Mem.block, hb] at hc
      | some vblk =>
        refine ⟨vblk, rfl, ?_⟩
        by_cases hl : vblk.live = true
        · exact hl
        · simp [mc_eval, Mem.cstr, Mem.block, hb, hl] at hc
    refine ⟨M.set bv { vblk with live := false }, ?_, by simp, fun b hb => set_other (hb bv rfl)⟩
    simp [mc_exec, mc_eval, hE, free_spec M bv vblk w1 w2]

/-- `free(dst.value); dst.value = src ? strdup(src) : strdup("")` with `dst = (*fe)[a]`, the source member read by any expression `LD`
    that does not depend on the freed block: the array's word names a new block `bn` holding the source's string, the old value's block
    and the array are the only older blocks that changed -/
theorem me_replace_exec (fuel : Nat) (LD : Expr) (M1 : Mem) (loc : List Val) (cell fa a : Nat) (cblk ablk1 : Block) (v w : Val) (so sw : Option (List UInt8))
    (hl1 : loc[1]? = some (.ptr cell 0)) (hl5 : loc[5]? = some (.int (a : Int)))
    (hc1 : M1[cell]? = some cblk) (hc2 : cblk.live = true) (hc3 : cblk.slots[0]? = some (.ptr fa 0))
    (a1 : M1[fa]? = some ablk1) (a2 : ablk1.live = true) (a3 : ablk1.writable = true) (ha : 7 * a + 2 < ablk1.slots.length)
    (v1 : M1.loadSlot fa (((7 * a : Nat) : Int) + 2) = .ok v) (v2 : OptStr M1 v so) (hvne : ∀ bv, v = .ptr bv 0 → cell ≠ bv ∧ fa ≠ bv)
    (hw : ∀ mm, (∀ b, b < M1.length → (∀ bv, v = .ptr bv 0 → b ≠ bv) → mm[b]? = M1[b]?) →
      evalE LD { mem := mm, loc := loc } = .ok (w, { mem := mm, loc := loc }) ∧ OptStr mm w sw) :
    ∃ M3 bn, exec fuel (.seq (.expr (.call "free" (.cons (.load (.slot meDst 2) .ptr) .nil)))
        (.expr (.assign (.slot meDst 2) (.cond LD (.call "strdup" (.cons LD .nil)) (.call "strdup" (.cons (.strlit []) .nil))) .ptr)))
        { mem := M1, loc := loc } = .normal { mem := M3, loc := loc } ∧
      M3[fa]? = some { ablk1 with slots := ablk1.slots.set (7 * a + 2) (.ptr bn 0) } ∧
      (∀ b, b < M1.length → b ≠ fa → (∀ bv, v = .ptr bv 0 → b ≠ bv) → M3[b]? = M1[b]?) ∧
      M3.cstr bn 0 = .ok (sw.getD []) ∧ M1.length ≤ bn ∧ M1.length ≤ M3.length := by
  have hfalt : fa < M1.length := (List.getElem?_eq_some_iff.1 a1).1
  have hale : 7 * a ≤ ablk1.slots.length := by omega
  have hcast : ((7 * a : Nat) : Int) + ((2 : Nat) : Int) = ((7 * a : Nat) : Int) + 2 := rfl
  -- `free(dst.value)`
  have hd1 := dst_eval M1 loc cell fa a cblk ablk1 hl1 hl5 hc1 hc2 hc3 a1 a2 hale
  have hld : evalE (.load (.slot meDst 2) .ptr) { mem := M1, loc := loc } = .ok (v, { mem := M1, loc := loc }) := by
    generalize meDst = D at hd1 ⊢
    simp only [mc_eval, hd1, hcast, v1]
  obtain ⟨M2, hfree, hM2len, hM2fr⟩ := free_optstr fuel _ M1 loc v so hld v2
  have hc1' : M2[cell]? = some cblk := by rw [hM2fr cell (fun bv hv => (hvne bv hv).1)]; exact hc1
  have a1' : M2[fa]? = some ablk1 := by rw [hM2fr fa (fun bv hv => (hvne bv hv).2)]; exact a1
  -- the new value
  obtain ⟨M2', bn, hnv, hbnstr, hbnge, hbnlt, hlen2', hfr2'⟩ := me_newval LD M2 loc w sw
    (fun mm hmm => (hw mm (fun b hb hbv => by rw [hmm b (by omega)]; exact hM2fr b hbv)).1)
    (hw M2 (fun b _ hbv => hM2fr b hbv)).2
  have a1'' : M2'[fa]? = some ablk1 := by rw [hfr2' fa (by omega)]; exact a1'
  have hst := storeSlot_of (i := 7 * a + 2) (.ptr bn 0) a1'' a2 a3 ha
  rw [Int.natCast_add] at hst
  have hd2 := dst_eval M2 loc cell fa a cblk ablk1 hl1 hl5 hc1' hc2 hc3 a1' a2 hale
  refine ⟨M2'.set fa { ablk1 with slots := ablk1.slots.set (7 * a + 2) (.ptr bn 0) }, bn, ?_, List.getElem?_set_self (by omega),
    fun b hb h1 h2 => by rw [set_other h1, hfr2' b (by omega), hM2fr b h2],
    by rw [cstr_congr (set_other (show bn ≠ fa by omega))]; exact hbnstr, by omega, by rw [List.length_set]; omega⟩
  rw [exec_seq_normal hfree]
  generalize meDst = D at hd2 ⊢
  generalize (Expr.cond LD (.call "strdup" (.cons LD .nil)) (.call "strdup" (.cons (.strlit []) .nil))) = CE at hnv ⊢
  simp only [mc_exec, mc_eval, hd2, hnv, convert, beq_self_eq_true, if_true, hst]

/-- the value word of the newest element redirected to a new string: the old value's block may be gone (nothing else names it),
    every other older block is as it was -/
theorem ArrInv.set_value {m0 : Mem} {bk bl0 fa cell : Nat} {names0 : List (List UInt8)} {gl0len cap start : Nat} {ablk0 : Block}
    {sel : List Econf.Entry} {M M1 M3 : Mem} (C : ArrCtx m0 bk bl0 fa cell gl0len cap) (u : Econf.Entry) (val : List UInt8)
    (hM : ArrInv m0 bk bl0 fa names0 gl0len cap start ablk0 sel M)
    (h1 : ArrInv m0 bk bl0 fa names0 gl0len cap start ablk0 (sel ++ [u]) M1) (hlen : M.length ≤ M1.length)
    (hfresh : ∀ bv, M1.loadSlot fa (((7 * (start + sel.length) : Nat) : Int) + 2) = .ok (.ptr bv 0) → M.length < bv ∧
        (∀ k : Nat, k < 5 → k ≠ 2 → M1.loadSlot fa (((7 * (start + sel.length) : Nat) : Int) + (k : Int)) ≠ .ok (.ptr bv 0)) ∧
        ∀ bl3 gl3, GlMem M1 bk bl3 gl3 → bl3 ≠ bv ∧ ∀ x, x ∈ gl3 → x.1 ≠ bv)
    (hwords : ∀ ablkM ablk', M[fa]? = some ablkM → M1[fa]? = some ablk' → ∀ k, k < 7 * (start + sel.length) → ablk'.slots[k]? = ablkM.slots[k]?)
    (bn : Nat) (hfa3 : ∀ ablk1, M1[fa]? = some ablk1 → M3[fa]? = some { ablk1 with slots := ablk1.slots.set (7 * (start + sel.length) + 2) (.ptr bn 0) })
    (hkeep : ∀ b, b < M1.length → b ≠ fa →
      (∀ bv, M1.loadSlot fa (((7 * (start + sel.length) : Nat) : Int) + 2) = .ok (.ptr bv 0) → b ≠ bv) → M3[b]? = M1[b]?)
    (hbn : M3.cstr bn 0 = .ok val) (hbnge : M1.length ≤ bn) (hlen3 : M1.length ≤ M3.length) :
    ArrInv m0 bk bl0 fa names0 gl0len cap start ablk0 (sel ++ [{ Econf.cpyEntry u with value := some val }]) M3 := by
  obtain ⟨bl', gl', d1, d2, d3, d4, d5, d6, d7, d8⟩ := h1.dest
  obtain ⟨ablk1, a1, a2, a3, a4, a5, a6⟩ := h1.arr
  obtain ⟨ablkM, aM1, aM2, _, _, _, _⟩ := hM.arr
  obtain ⟨blM, glM, _, _, _, _, _, _, _, dM8⟩ := hM.dest
  have hgrow0 : m0.length ≤ M.length := hM.grows
  have hfalt := C.fa_lt
  have hbklt := C.bk_lt
  have h3 := hfa3 ablk1 a1
  have hm01 : m0.length ≤ M1.length := Nat.le_trans hgrow0 hlen
  have hlow : ∀ b, b ≤ M.length → ∀ bv, M1.loadSlot fa (((7 * (start + sel.length) : Nat) : Int) + 2) = .ok (.ptr bv 0) → b ≠ bv :=
    fun b hb bv hv => Nat.ne_of_lt (Nat.lt_of_le_of_lt hb (hfresh bv hv).1)
  have hold0 : ∀ b, b < m0.length → b < M1.length ∧ b ≤ M.length := fun b hb =>
    ⟨Nat.lt_of_lt_of_le hb hm01, Nat.le_of_lt (Nat.lt_of_lt_of_le hb hgrow0)⟩
  have hbl'fa : bl' ≠ fa := Ne.symm (ne_of_same_or_new d2 hfalt C.fa_ne.2)
  have hfaav : fa ∉ [bk, bl'] := by
    simp only [List.mem_cons, List.not_mem_nil, or_false, not_or]
    exact ⟨C.fa_ne.1, Ne.symm hbl'fa⟩
  have hkbk : M3[bk]? = M1[bk]? := hkeep bk (hold0 bk hbklt).1 (Ne.symm C.fa_ne.1) (hlow bk (hold0 bk hbklt).2)
  have hG3 : GlMem M3 bk bl' gl' := d1.mono_of hkbk
    (hkeep bl' d1.bl_lt hbl'fa (fun bv hv => ((hfresh bv hv).2.2 bl' gl' d1).1))
    (fun b str hc ⟨x, hx, hxb⟩ => hkeep b (cstr_lt hc) (fun hh => no_cstr a1 a4 str (hh ▸ hc))
      (fun bv hv => by rw [← hxb]; exact ((hfresh bv hv).2.2 bl' gl' d1).2 x hx))
  -- a string an element of the array names is kept unless it is the freed one
  have hstr : ∀ b str, M1.cstr b 0 = .ok str →
      (∀ bv, M1.loadSlot fa (((7 * (start + sel.length) : Nat) : Int) + 2) = .ok (.ptr bv 0) → b ≠ bv) → M3[b]? = M1[b]? :=
    fun b str hc hb => hkeep b (cstr_lt hc) (fun hh => no_cstr a1 a4 str (hh ▸ hc)) hb
  have hslot : ∀ k, k ≠ 7 * (start + sel.length) + 2 → (ablk1.slots.set (7 * (start + sel.length) + 2) (Val.ptr bn 0))[k]? = ablk1.slots[k]? :=
    fun k hk => List.getElem?_set_ne (Ne.symm hk)
  have hlo : ∀ k, k < 7 * (start + sel.length) → k ≠ 7 * (start + sel.length) + 2 := fun k hk => Nat.ne_of_lt (Nat.lt_add_right 2 hk)
  refine ⟨fun b hb hav => ?_, Nat.le_trans hm01 hlen3, ⟨bl', gl', hG3, d2, fun kb blk hk hb => d3 kb blk hk (hkbk ▸ hb), d4, d5, by simpa using d6, ?_, fun j hjl => ?_⟩,
    ⟨_, h3, a2, a3, a4, by rw [List.length_set]; exact a5, fun k hk => by
      rw [hslot k (hlo k (Nat.lt_of_lt_of_le hk (Nat.mul_le_mul_left 7 (Nat.le_add_right _ _))))]; exact a6 k hk⟩⟩
  · have hav' := hav
    simp only [List.mem_cons, List.not_mem_nil, or_false, not_or] at hav'
    rw [hkeep b (hold0 b hb).1 hav'.2.2 (hlow b (hold0 b hb).2)]
    exact h1.agree b hb hav
  · rw [d7]
    simp [Econf.cpyEntry]
  · by_cases hjs : j < sel.length
    · -- an element copied earlier: its words are those it had before this round, its strings are older than the freed block
      have hold := d8 j (by rw [List.length_append]; exact Nat.lt_succ_of_lt hjs)
      rw [List.getElem_append_left hjs] at hold ⊢
      have hMent := dM8 j hjs
      have hptr : ∀ k : Nat, k < 5 → ∀ b, M1.loadSlot fa (((7 * (start + j) : Nat) : Int) + (k : Int)) = .ok (.ptr b 0) →
          M3[b]? = M1[b]? ∧ b ∉ [bk, bl'] := by
        intro k hk b hl
        have hl' := hl
        rw [← Int.natCast_add] at hl'
        obtain ⟨s1, s2, s3⟩ := loadSlot_inv hl' a1
        have hwM := hwords ablkM ablk1 aM1 a1 (7 * (start + j) + k) (word_lt hjs (Nat.lt_of_lt_of_le hk (by decide)))
        have hlM : M.loadSlot fa (((7 * (start + j) : Nat) : Int) + (k : Int)) = .ok (.ptr b 0) := by
          rw [← Int.natCast_add]; exact loadSlot_of aM1 aM2 (by rw [← hwM]; exact s1) (by simp)
        obtain ⟨⟨strM, hcM⟩, _⟩ := hMent.ptr_str k hk b hlM
        obtain ⟨⟨str, hc⟩, hbav⟩ := hold.ptr_str k hk b hl
        exact ⟨hstr b str hc (hlow b (Nat.le_of_lt (cstr_lt hcM))), hbav⟩
      exact hold.reblock' a1 h3 a2 (fun k hk => hslot _ (hlo _ (word_lt hjs hk))) (fun k hk b hl => (hptr k hk b hl).1) (fun k hk b hl => (hptr k hk b hl).2) hfaav
    · -- the new element: the other members as copied, the value the new string
      have hje : j = sel.length := by simp at hjl; omega
      subst hje
      have hEnew := d8 sel.length (by simp)
      simp only [List.getElem_concat_length] at hEnew ⊢
      refine hEnew.with_value hfaav (fun k w hk hk2 hl => ?_) (fun k b hk hk2 hl => ?_) _ ⟨.ptr bn 0, ?_, .some bn _ hbn, fun b hb => ?_⟩
      · rw [← Int.natCast_add] at hl ⊢
        obtain ⟨s1, s2, _⟩ := loadSlot_inv hl a1
        exact loadSlot_of h3 a2 (by rw [← s1]; exact hslot _ (by omega)) s2
      · obtain ⟨⟨str, hc⟩, hbav⟩ := hEnew.ptr_str k hk b hl
        exact ⟨hstr b str hc (fun bv hv hh => (hfresh bv hv).2.1 k hk hk2 (hh ▸ hl)), hbav⟩
      · have hacap : 7 * (start + sel.length) + 5 < ablk1.slots.length := by
          obtain ⟨s1, _, _⟩ := loadSlot_inv (i := 7 * (start + sel.length) + 5) (by simpa using hEnew.line) a1
          exact (List.getElem?_eq_some_iff.1 s1).1
        have := loadSlot_of (i := 7 * (start + sel.length) + 2) h3 a2 (List.getElem?_set_self (by omega)) (by simp)
        simpa using this
      · cases hb
        exact not_mem_pair (hold0 bk hbklt).1 d1.bl_lt hbnge

/-- the value replacement of `merge_existing_groups`: if the override defines the key, the copy's value (a block made by `strdup`
    a moment ago, nobody else's) is freed and replaced by a copy of the override's value (the empty string if it has none) -/
theorem me_override {m0 : Mem} {bk bl0 fa cell be bea : Nat} {es : List Econf.Entry} {names0 : List (List UInt8)} {gl0len cap start : Nat} {ablk0 : Block}
    {sel : List Econf.Entry} {M M1 : Mem}
    (C : ArrCtx m0 bk bl0 fa cell gl0len cap) (hSe : SrcMem m0 be bea es [bk, bl0, fa]) (u : Econf.Entry)
    (hM : ArrInv m0 bk bl0 fa names0 gl0len cap start ablk0 sel M)
    (h1 : ArrInv m0 bk bl0 fa names0 gl0len cap start ablk0 (sel ++ [u]) M1) (hlen : M.length ≤ M1.length)
    (hfresh : ∀ bv, M1.loadSlot fa (((7 * (start + sel.length) : Nat) : Int) + 2) = .ok (.ptr bv 0) → M.length < bv ∧
        (∀ k : Nat, k < 5 → k ≠ 2 → M1.loadSlot fa (((7 * (start + sel.length) : Nat) : Int) + (k : Int)) ≠ .ok (.ptr bv 0)) ∧
        ∀ bl3 gl3, GlMem M1 bk bl3 gl3 → bl3 ≠ bv ∧ ∀ x, x ∈ gl3 → x.1 ≠ bv)
    (hwords : ∀ ablkM ablk', M[fa]? = some ablkM → M1[fa]? = some ablk' → ∀ k, k < 7 * (start + sel.length) → ablk'.slots[k]? = ablkM.slots[k]?)
    (loc : List Val) (hl1 : loc[1]? = some (.ptr cell 0)) (hl3 : loc[3]? = some (.ptr be 0))
    (hl5 : loc[5]? = some (.int ((start + sel.length : Nat) : Int))) (hl10 : loc[10]? = some (.int ((firstIdx (entsOf es) u.group u.key : Nat) : Int)))
    (fuel : Nat) :
    ∃ M3, exec fuel meOverride { mem := M1, loc := loc } = .normal { mem := M3, loc := loc } ∧
      ArrInv m0 bk bl0 fa names0 gl0len cap start ablk0 (sel ++ [Econf.overrideValue es u]) M3 ∧ M1.length ≤ M3.length := by
  have hS1 : SrcMem M1 be bea es [bk, bl0, fa] := hSe.mono h1.agree
  have htest := ef_test 3 10 M1 loc be bea es _ (firstIdx (entsOf es) u.group u.key) hS1 hl3 hl10
  have hfe := findEntry_eq es u.group u.key
  by_cases hj : firstIdx (entsOf es) u.group u.key < es.length
  · -- the override defines the key (first at `j`)
    have hov : Econf.overrideValue es u = { Econf.cpyEntry u with value := some ((es[firstIdx (entsOf es) u.group u.key]).value.getD []) } := by
      simp [Econf.overrideValue, hfe, List.getElem?_eq_getElem hj]
    obtain ⟨bl', gl', d1, _, _, _, _, _, _, d8⟩ := h1.dest
    obtain ⟨ablk1, a1, a2, a3, a4, a5, a6⟩ := h1.arr
    obtain ⟨cblk, c1, c2, c3⟩ := C.cellb
    have hclt : cell < m0.length := (List.getElem?_eq_some_iff.1 c1).1
    have hgrow0 : m0.length ≤ M.length := hM.grows
    have hfalt := C.fa_lt
    -- the value word of the new element
    have hEnew := d8 sel.length (by simp)
    simp only [List.getElem_concat_length] at hEnew
    obtain ⟨v, v1, v2, _⟩ := hEnew.val
    have hacap : 7 * (start + sel.length) + 2 < ablk1.slots.length := by
      obtain ⟨s1, _, _⟩ := loadSlot_inv (i := 7 * (start + sel.length) + 5) (by simpa using hEnew.line) a1
      have := (List.getElem?_eq_some_iff.1 s1).1
      omega
    have hbv : ∀ bv, v = .ptr bv 0 → M.length < bv := fun bv hv => (hfresh bv (hv ▸ v1)).1
    -- the override's value for this key, read in any memory that differs from `M1` in the freed block only
    obtain ⟨w, w1, w2, w3⟩ := (hSe.ents (firstIdx (entsOf es) u.group u.key) hj).val
    have hw : ∀ mm, (∀ b, b < M1.length → (∀ bv, v = .ptr bv 0 → b ≠ bv) → mm[b]? = M1[b]?) →
        evalE (.load (.slot (meEtc 10) 2) .ptr) { mem := mm, loc := loc } = .ok (w, { mem := mm, loc := loc }) ∧
          OptStr mm w (es[firstIdx (entsOf es) u.group u.key]).value := by
      intro mm hmm
      have hag : ∀ b, b < m0.length → b ∉ [bk, bl0, fa] → mm[b]? = m0[b]? := fun b hb hav => by
        rw [hmm b (by omega) (fun bv hv => by have := hbv bv hv; omega)]; exact h1.agree b hb hav
      have hwm : mm.loadSlot bea (((7 * (firstIdx (entsOf es) u.group u.key) : Nat) : Int) + ((2 : Nat) : Int)) = .ok w := by
        rw [loadSlot_congr (hag bea (loadSlot_lt w1) hSe.arrav)]; exact w1
      exact ⟨ef_member 3 10 mm loc be bea es _ (firstIdx (entsOf es) u.group u.key) 2 w (hSe.mono hag) hj hl3 hl10 hwm,
        w2.mono (fun b hb => hag b (w2.lt b hb) (w3 b hb))⟩
    obtain ⟨M3, bn, hex, h3, hkeep, hbn, hbnge, hlen3⟩ := me_replace_exec fuel _ M1 loc cell fa (start + sel.length) cblk ablk1 v w _ _
      hl1 hl5 (by rw [h1.agree cell hclt C.cellav]; exact c1) c2 c3 a1 a2 a3 hacap v1 v2 (fun bv hv => by have := hbv bv hv; omega) hw
    refine ⟨M3, ?_, ?_, hlen3⟩
    · unfold meOverride
      rw [exec_ite_true (by simpa [hj, kfTest] using htest)]
      exact hex
    · rw [hov]
      exact ArrInv.set_value C u _ hM h1 hlen hfresh hwords bn (fun ab hab => by rw [a1] at hab; cases hab; exact h3)
        (fun b hb hbfa hbv' => hkeep b hb hbfa (fun bv hv => hbv' bv (hv ▸ v1))) hbn hbnge hlen3
  · -- the override does not define the key: the copy stays as it is
    have hov : Econf.overrideValue es u = Econf.cpyEntry u := by
      simp [Econf.overrideValue, hfe, List.getElem?_eq_none (Nat.le_of_not_lt hj)]
    refine ⟨M1, ?_, ?_, Nat.le_refl _⟩
    · unfold meOverride
      rw [exec_ite_false (by simpa [hj, kfTest] using htest)]; simp [mc_exec]
    · rw [hov]
      exact h1.congr (by simp [Econf.cpyEntry])

end LeafKf
