import Econf.Lemmas.ParserLemmas
import Econf.Lemmas.DocLemmas
import Econf.Lemmas.LayeredLemmas

/-!
  C13 — parse failures name the right error and line and return nothing partial.
  (The message table `C13_messages` is in `Econf/Props/Struct.lean`, over the facts extracted
  from lib/econf_error.c and include/libeconf.h.)
-/


namespace Econf

/-- the three malformed section headers and their codes (text after the `[`) -/
theorem C13_section_codes (rest : Str) :
    (RBR ∉ rest → parseSection rest = .error .missingBracket) ∧
    (dropLastWhile isSpace rest = [RBR] → parseSection rest = .error .emptySectionName) ∧
    (RBR ∈ rest → (dropLastWhile isSpace rest).getLast? ≠ some RBR → parseSection rest = .error .textAfterSection) := by
  refine ⟨?_, ?_, ?_⟩
  · intro h
    unfold parseSection
    simp only
    split
    · rfl
    · rename_i l hl
      have : (l != RBR) = true := by
        have hsub : l ∈ rest := mem_of_mem_dropLastWhile _ _ _ (List.mem_of_getLast? hl)
        simp only [bne_iff_ne, ne_eq]
        intro hh; exact h (hh ▸ hsub)
      simp [this, h]
  · intro h
    unfold parseSection
    simp [h, RBR]
  · intro hm hl
    unfold parseSection
    simp only
    split
    · rename_i hnone
      -- nothing left after trimming would mean that every byte is a blank; `]` is not
      exfalso
      have hnil : dropLastWhile isSpace rest = [] := List.getLast?_eq_none_iff.mp hnone
      exact dropLastWhile_ne_nil isSpace rest RBR hm (by decide) hnil
    · rename_i l hl'
      have : (l != RBR) = true := by
        simp only [bne_iff_ne, ne_eq]
        intro hh; rw [hh] at hl'; exact hl hl'
      simp [this, hm]


/-- a section-header line without comment characters fails with the code of `parseSection`,
    in every parser state -/
theorem C13_section_line (cfg : Cfg) (st : PState) (raw rest : Str) (e : Err)
    (hb : lineBody raw = LBR :: rest) (hc : ∀ c ∈ cfg.comment, c ∉ LBR :: rest)
    (he : parseSection rest = .error e) : parseLine cfg st raw = .error e := by
  rw [parseLine_content cfg st raw _ _ LBR st.ca hb rfl (fun h => hc LBR h List.mem_cons_self)
    (scanComments_none _ _ _ _ hc)]
  exact parseContent_sect_error _ _ _ _ _ he

/-- a key followed by text without a delimiter (delimiter set without blanks, line not in
    continuation position) fails with missing-delimiter, in every parser state -/
theorem C13_nodelim_line (cfg : Cfg) (st : PState) (raw : Str) (key : Str) (b t : Byte) (more ts : Str)
    (hb : lineBody raw = key ++ b :: more)
    (hc : ∀ c ∈ cfg.comment, c ∉ key ++ b :: more)
    (hkey : key ≠ []) (hk0 : key.head? ≠ some LBR)
    (hkc : ∀ c ∈ key, isSpace c = false ∧ cfg.delim.contains c = false)
    (hbs : isSpace b = true)
    (hmore : ∀ c ∈ more, cfg.delim.contains c = false)
    (ht : more.dropWhile isSpace = t :: ts)
    (hw : hasWsp cfg.delim = false) (hnd : noDelim cfg.delim = false)
    (hcont : lastEntryOnPrevLine { st with line := st.line + 1 } = false) :
    parseLine cfg st raw = .error .missingDelimiter := by
  obtain ⟨k0, ks, rfl⟩ := List.exists_cons_of_ne_nil hkey
  have hmixed : mixedDelim cfg.delim = false := by rw [mixedDelim, hw]; rfl
  have hsplit : splitKey cfg.delim ((k0 :: ks) ++ b :: more) = (k0 :: ks, false, more) := by
    rw [splitKey_upto cfg.delim _ b more hkey hkc (by rw [hbs]; rfl), seenAt, hmixed, if_neg Bool.false_ne_true,
      space_not_delim cfg.delim hw b hbs]
  have hnc : isContinuation cfg { st with line := st.line + 1 } (cstr raw) false more = false := by
    simp only [isContinuation, hcont, Bool.and_false]
  -- the value part: the first byte behind the blanks is no delimiter
  have hval : parseValue cfg.delim false more = .error .missingDelimiter := by
    have hme : more.isEmpty = false := by
      cases more with
      | nil => cases ht
      | cons a as => rfl
    have htd : cfg.delim.contains t = false :=
      hmore t ((List.dropWhile_sublist _).subset (by rw [ht]; exact List.mem_cons_self))
    simp only [parseValue, skipDelim, hme, Bool.false_eq_true, if_false, ht, hw, Bool.not_false, Bool.and_self, if_true, htd]
  rw [parseLine_content cfg st raw _ _ k0 st.ca hb rfl (fun h => hc k0 h List.mem_cons_self) (scanComments_none _ _ _ _ hc),
    parseContent_entry cfg _ _ _ k0 rfl (fun hh => hk0 (by rw [hh]; rfl)) hnd]
  exact (parseEntry_new cfg _ _ _ _ _ _ hsplit hnc hkey).2 _ hval

/-- the first failing line determines code and line number (1-based), whatever follows it -/
theorem C13_first_error (cfg : Cfg) (st1 : PState) (pre : List Str) (bad : Str) (rest : List Str) (e : Err)
    (hpre : parseLines cfg {} pre = .ok st1) (hbad : parseLine cfg st1 bad = .error e) :
    parseLines cfg {} (pre ++ bad :: rest) = .error (e, pre.length + 1) := by
  have := parseLines_first_error cfg {} st1 pre bad rest e hpre hbad
  simpa using this

/-- every failure is one of the four documented parse errors and names a line of the file -/
theorem C13_error_range (cfg : Cfg) (ls : List Str) (e : Err) (n : Nat)
    (h : parseLines cfg {} ls = .error (e, n)) : ParseErr e ∧ 1 ≤ n ∧ n ≤ ls.length := by
  have := parseLines_err cfg {} ls e n h
  simp at this
  exact ⟨this.1, by omega, this.2.2⟩

/-- non-vacuity: `a=1`, `[x] y`, `b=2` with delimiter `=` fails with text-after-section at line 2 -/
example : (match parseBytes { delim := [0x3d], comment := [0x23] } [0x61, 0x3d, 0x31, 0x0a, 0x5b, 0x78, 0x5d, 0x20, 0x79, 0x0a, 0x62, 0x3d, 0x32, 0x0a] with
    | .error (e, n) => e == .textAfterSection && n == 2
    | .ok _ => false) = true := by decide

/-! ### the malformed line behind any conventional document

The premise "the lines before it parse" of `C13_first_error` is discharged by the C02 theorem for
every document of the conventional grammar – comment blocks, sections, entries with continuation
lines – so the reported line number is the number of physical lines of that document plus one,
whatever precedes the malformed line, and whatever follows it. -/

theorem C13_after_conventional (cfg : Cfg) (doc : List Item) (bad rest : Str) (e : Err)
    (hw : CfgWF cfg.eff) (hdoc : ∀ it ∈ doc, it.WF cfg.eff) (hline : IsLine bad)
    (hbad : ∀ st, parseLine cfg.eff st bad = .error e) :
    parseBytes cfg (render doc ++ bad ++ rest) = .error (e, (renderLines doc).length + 1) := by
  obtain ⟨t, rfl, ht⟩ := hline
  have hs : splitLines (render doc ++ (t ++ [NL]) ++ rest) = renderLines doc ++ (t ++ [NL]) :: splitLines rest := by
    rw [List.append_assoc, splitLines_render_append cfg.eff hw doc _ hdoc, List.append_assoc, List.singleton_append,
      splitLines_line t rest (text_ne_NL ht)]
  have hp := parse_doc cfg.eff hw doc {} hdoc
  have := C13_first_error cfg.eff (doc.foldl expItem {}) (renderLines doc) (t ++ [NL]) (splitLines rest) e hp (hbad _)
  unfold Cfg.eff at this
  unfold parseBytes
  simp only [hs, this]

/-- a header without closing bracket behind the concrete document of `Props/C02.lean` (6 lines): line 7 -/
example : parseBytes exCfg (render exDoc ++ [0x5b, 0x78, 0x0a] ++ [0x61, 0x3d, 0x31, 0x0a]) = .error (.missingBracket, 7) := by
  apply C13_after_conventional exCfg exDoc _ _ _ exCfg_wf exDoc_wf ⟨[0x5b, 0x78], rfl, by decide⟩
  intro st
  exact C13_section_line _ st _ [0x78] _ (by decide) (by decide) ((C13_section_codes [0x78]).1 (by decide))

/-! ### the error location of a layered read (the process-wide record `last_scanned_filename` / `last_scanned_line_nr`) -/


/-- "the error location is `(file, line)` and the failure is the parse error `e` of that file's content" -/
def LocatedAt (ctx : RdCtx) (join python : Bool) (d c : Str) (s' : RdState) (path : Str) (e : Err) : Prop :=
  ∃ abs content n, absPath ctx.fs path = some abs ∧ ctx.fs.read abs = some content ∧
    parseBytes { delim := d, comment := c, python := python, join := join } content = .error (e, n) ∧
    s'.g.errFile = abs ∧ s'.g.errLine = n

theorem parseErr_ne_nofile (e : Err) (h : ParseErr e) : e ≠ .nofile := by
  rcases h with h | h | h | h <;> (rw [h]; intro hh; cases hh)

theorem parseErr_ne_cb (e : Err) (h : ParseErr e) : e ≠ .parsingCallbackFailed := by
  rcases h with h | h | h | h <;> (rw [h]; intro hh; cases hh)

theorem parseErr_not_gate (g : Global) (node : Node) (e : Err) (h : gate g node = some e) : ¬ ParseErr e := by
  intro hp
  rcases gate_codes g node e h with h | h | h | h | h <;> (rw [h] at hp; rcases hp with h | h | h | h <;> cases h)

/-- one file: a parse failure leaves the location record at that file's absolute path and the
    number of the offending line -/
theorem C13_location_file (ctx : RdCtx) (s : RdState) (join python : Bool) (path d c : Str) (e : Err)
    (h : (readFileCB ctx s join python path d c).2 = .error e) (hp : ParseErr e) :
    LocatedAt ctx join python d c (readFileCB ctx s join python path d c).1 path e := by
  cases hl : ctx.fs.lstat path with
  | none => rw [readFileCB_absent ctx hl] at h; cases h; exact absurd rfl (parseErr_ne_nofile _ hp)
  | some node =>
    cases hg : gate s.g node with
    | some e' => rw [readFileCB_refused ctx hl hg] at h; cases h; exact absurd hp (parseErr_not_gate _ _ _ hg)
    | none =>
      cases hacc : accepts ctx.cb s.calls path with
      | false => rw [readFileCB_rejected ctx hl hg hacc] at h; cases h; exact absurd rfl (parseErr_ne_cb _ hp)
      | true =>
        cases ha : absPath ctx.fs path with
        | none => rw [readFileCB_unresolved ctx hl hg hacc ha] at h; cases h; exact absurd rfl (parseErr_ne_nofile _ hp)
        | some abs =>
          rw [readFileCB_opened ctx hl hg hacc ha] at h ⊢
          unfold readOpened at h ⊢
          cases hr : ctx.fs.read abs with
          | none => simp only [hr] at h; cases h; exact absurd rfl (parseErr_ne_nofile _ hp)
          | some content =>
            simp only [hr] at h ⊢
            cases hpb : parseBytes { delim := d, comment := c, python := python, join := join } content with
            | ok st => simp only [hpb] at h; cases h
            | error en =>
              obtain ⟨e', n⟩ := en
              simp only [hpb] at h ⊢
              cases h
              exact ⟨abs, content, n, ha, hr, hpb, rfl, rfl⟩

/-- a sequence of files (the drop-ins of a layered read): the location record names the file at
    which the read stopped – the first one that fails – whatever was read before it -/
theorem C13_location_seq (ctx : RdCtx) (join python : Bool) (d c : Str) (s : RdState) (paths : List Str) (e : Err)
    (h : (readSeq ctx join python d c s paths).2 = .error e) (hp : ParseErr e) :
    ∃ pre p post, paths = pre ++ p :: post ∧
      LocatedAt ctx join python d c (readSeq ctx join python d c s paths).1 p e := by
  induction paths generalizing s with
  | nil => cases h
  | cons p ps ih =>
    have hf := C13_location_file ctx s join python p d c e
    cases hq : readFileCB ctx s join python p d c with
    | mk s' r =>
      rw [hq] at hf
      cases r with
      | error e' =>
        rw [readSeq_cons_error ctx ps hq] at h ⊢
        cases h
        exact ⟨[], p, ps, rfl, hf rfl hp⟩
      | ok kf =>
        rw [readSeq_cons_ok ctx ps hq] at h ⊢
        cases hr : (readSeq ctx join python d c s' ps).2 with
        | ok kfs => rw [hr] at h; cases h
        | error e' =>
          rw [hr] at h; cases h
          obtain ⟨pre, p', post, hps, hloc⟩ := ih _ hr
          exact ⟨p :: pre, p', post, by rw [hps]; rfl, hloc⟩

/-- the main-file search -/
theorem C13_location_first (ctx : RdCtx) (join python : Bool) (d c : Str) (s : RdState) (paths : List Str) (e : Err)
    (h : (readFirst ctx join python d c s paths).2 = .error e) (hp : ParseErr e) :
    ∃ p ∈ paths, LocatedAt ctx join python d c (readFirst ctx join python d c s paths).1 p e := by
  induction paths generalizing s with
  | nil => cases h
  | cons p ps ih =>
    have hf := C13_location_file ctx s join python p d c e
    cases hq : readFileCB ctx s join python p d c with
    | mk s' r =>
      rw [hq] at hf
      cases r with
      | ok kf => rw [readFirst_cons_ok ctx ps hq] at h; cases h
      | error e' =>
        by_cases hn : e' = .nofile
        · subst hn
          rw [readFirst_cons_nofile ctx ps hq] at h ⊢
          obtain ⟨p', hp', hloc⟩ := ih _ h
          exact ⟨p', List.mem_cons_of_mem _ hp', hloc⟩
        · rw [readFirst_cons_error ctx ps hq hn] at h ⊢
          cases h
          exact ⟨p, List.mem_cons_self, hf rfl hp⟩

/-- **the layered read**: when `econf_readConfig*`/`econf_readDirs*` fail with a parse error, the
    location record names one of the consulted files – the main-file candidate or the drop-in at
    which the read stopped, whatever number it has in the sequence – by its absolute path, and the
    line number is the one the parser reported for that file's content. -/
theorem C13_location_history (ctx : RdCtx) (s : RdState) (dirs : List Str) (nm : Str) (suffix : Option Str) (d : Str)
    (comment : Str) (join python : Bool) (confDirs : List Str) (e : Err) (b : Bool)
    (h : (readHistory ctx s dirs (some nm) suffix (some d) comment join python confDirs).2 = .error (e, b))
    (hp : ParseErr e) :
    ∃ p ∈ mainCandidates dirs nm (dotSuffix (some nm) suffix) ++
          dropinPaths ctx.fs dirs nm (dotSuffix (some nm) suffix)
            (if confDirs.isEmpty then [dotSuffix (some nm) suffix ++ [0x2e, 0x64]] else confDirs),
      LocatedAt ctx join python d comment
        (readHistory ctx s dirs (some nm) suffix (some d) comment join python confDirs).1 p e := by
  rw [readHistory_eq] at h ⊢
  revert h
  fun_cases readLayers ctx join python d comment s _ _
  · rename_i s1 e' hq
    intro h; cases h
    obtain ⟨p, hpm, hloc⟩ := C13_location_first ctx join python d comment s _ e (by rw [hq]) hp
    rw [hq] at hloc
    split at hpm
    · cases hpm
    · exact ⟨p, List.mem_append_left _ hpm, hloc⟩
  · rename_i s1 main hq1 s2 e' hq2
    intro h; cases h
    obtain ⟨pre, p, post, hps, hloc⟩ := C13_location_seq ctx join python d comment s1 _ e (by rw [hq2]) hp
    rw [hq2] at hloc
    exact ⟨p, List.mem_append_right _ (by rw [hps]; simp), hloc⟩
  · intro h; cases h; exact absurd rfl (parseErr_ne_nofile _ hp)
  · intro h; cases h

/-- the two theorems composed: the failing file is a conventional document followed by a malformed
    line – then the recorded line number is that line's number -/
theorem C13_layered_line (ctx : RdCtx) (join : Bool) (d c : Str) (s' : RdState) (p : Str) (e e' : Err)
    (hloc : LocatedAt ctx join false d c s' p e)
    (doc : List Item) (bad rest : Str)
    (hcontent : ∀ abs, absPath ctx.fs p = some abs → ctx.fs.read abs = some (render doc ++ bad ++ rest))
    (hw : CfgWF (Cfg.eff { delim := d, comment := c, python := false, join := join }))
    (hdoc : ∀ it ∈ doc, it.WF (Cfg.eff { delim := d, comment := c, python := false, join := join }))
    (hline : IsLine bad)
    (hbad : ∀ st, parseLine (Cfg.eff { delim := d, comment := c, python := false, join := join }) st bad = .error e') :
    e = e' ∧ s'.g.errLine = (renderLines doc).length + 1 := by
  obtain ⟨abs, content, n, ha, hr, hpb, _, hline'⟩ := hloc
  have hc := hcontent abs ha
  rw [hr] at hc
  simp only [Option.some.injEq] at hc
  subst hc
  have := C13_after_conventional { delim := d, comment := c, python := false, join := join } doc bad rest e' hw hdoc hline hbad
  rw [this] at hpb
  simp only [Except.error.injEq, Prod.mk.injEq] at hpb
  exact ⟨hpb.1.symm, by rw [hline', ← hpb.2]⟩

end Econf
