import Generated.LeafFns
import Econf.Lemmas.MiniCFrame
import Econf.KeyFileOps
import Econf.Writer
import Econf.Parser

/-!
  # The string helpers of lib/, as translated from the C source on this run

  Every theorem below is about a term of `Generated/LeafFns.lean`, which `gen/c2lean.py` writes from clang's
  AST of /repo on every run.  Each says: for **every** input string (and every start offset inside it) the
  function runs to its `return` without leaving the bounds of an object, without reading an uninitialised
  byte and without signed overflow (any of these would be a `fault`), given enough loop fuel (more than the
  length of the string); and the pointer it returns and the memory it leaves are the ones the specification
  names.  A change to one of these C functions changes the generated term; the proofs are then re-checked
  against it and either still go through or fail.

  One section per function: the fragments of its term that the proofs name, its specification, the facts about lists, the
  theorem about its execution (`_exec`), and where there is a list-level model of the function the link to it (`C_`).
-/

open MiniC

namespace Leaf

/-! ## blanks, and the length of a leading run -/

/-- `isspace` of a byte read as a `char` -/
def spc (c : UInt8) : Bool := isSpace (sch c)

theorem spc_eq (c : UInt8) : spc c = Econf.isSpace c := by
  have h : ∀ n : Fin 256, spc (UInt8.ofNat n.val) = Econf.isSpace (UInt8.ofNat n.val) := by decide +kernel
  have := h ⟨c.toNat, c.toNat_lt⟩
  simpa using this

theorem isSpace_eq_spc : Econf.isSpace = spc := funext fun c => (spc_eq c).symm

def span (p : UInt8 → Bool) (l : List UInt8) : Nat := (l.takeWhile p).length

theorem span_le (p : UInt8 → Bool) (l : List UInt8) : span p l ≤ l.length := (List.takeWhile_sublist p).length_le

theorem span_eq_findIdx (p : UInt8 → Bool) (l : List UInt8) : span p l = l.findIdx (fun a => !p a) := by
  have := length_takeWhile_not (fun a => !p a) l
  simpa [span] using this

theorem span_lt (p : UInt8 → Bool) (l : List UInt8) (i : Nat) (h : i < span p l) : ∃ h' : i < l.length, p l[i] = true := by
  have hi : i < l.length := Nat.lt_of_lt_of_le h (span_le p l)
  rw [span_eq_findIdx] at h
  exact ⟨hi, by simpa using List.not_of_lt_findIdx h⟩

theorem span_stop (p : UInt8 → Bool) (l : List UInt8) (h : span p l < l.length) : p l[span p l] = false := by
  have := List.findIdx_getElem (p := fun a => !p a) (xs := l) (w := by rw [← span_eq_findIdx]; exact h)
  simp only [← span_eq_findIdx] at this
  simpa using this

theorem span_eq_length (p : UInt8 → Bool) (l : List UInt8) (h : span p l = l.length) : ∀ x ∈ l, p x = true := by
  rw [span_eq_findIdx, List.findIdx_eq_length] at h
  simpa using h

/-- `isspace((int) e)` as a condition, for an `e` of type `char` -/
theorem isspace_test {e : Expr} {st st' : St} {c : UInt8} (he : evalE e st = .ok (.int (sch c), st')) :
    testOf (some (.call "isspace" (.cons (.cast .i32 e) .nil))) st = .ok (spc c, st') := by
  simp [testOf, mc_eval, he, convert, builtin_isspace, truth, wrapTo_i32_sch, truth_ite, spc]

/-! ## `ltrim` (lib/libeconf_ext.c) -/

theorem ltrim_test (m : Mem) (b : Nat) (cells : List UInt8) (h : MemBytes m b cells) (j : Nat) (hj : j < cells.length) :
    testOf (some (.call "isspace" (.cons (.cast .i32 (.load (.deref (.load (.var 0) .ptr)) .i8)) .nil))) { mem := m, loc := [.ptr b j] } =
      .ok (spc cells[j], { mem := m, loc := [.ptr b j] }) :=
  isspace_test (evalE_load_deref (evalE_var (ty := .ptr) rfl (by simp)) h hj)

/-- `ltrim` (lib/libeconf_ext.c) started at any offset `k` of a string: no fault, memory untouched, the pointer returned has moved over
    the blanks from there -/
theorem ltrim_exec (m : Mem) (b : Nat) (s : List UInt8) (h : MemBytes m b (s ++ [0])) (k : Nat) (hk : k ≤ s.length)
    (fuel : Nat) (hf : s.length < fuel) :
    exec fuel LeafFns.ltrim.body { mem := m, loc := [.ptr b k] } =
      .ret (.ptr b (k + span spc (s.drop k) : Nat)) { mem := m, loc := [.ptr b (k + span spc (s.drop k) : Nat)] } := by
  have hn := span_le spc (s.drop k)
  simp only [List.length_drop] at hn
  refine exec_seq_step (st' := { mem := m, loc := [.ptr b (k + span spc (s.drop k) : Nat)] }) ?_ (by simp [mc_exec, mc_eval])
  rw [exec_while]
  refine loop_count _ _ _ (span spc (s.drop k)) (fun i => { mem := m, loc := [.ptr b (k + i : Nat)] }) _ ?_ ?_ fuel (by omega)
  · intro i hi
    obtain ⟨h', hp⟩ := span_lt spc (s.drop k) i hi
    simp only [List.length_drop] at h'
    have hj : k + i < (s ++ [0]).length := by simp; omega
    refine ⟨?_, { mem := m, loc := [.ptr b (k + (i + 1) : Nat)] }, Or.inl ?_, rfl⟩
    · rw [ltrim_test m b _ h (k + i) hj]
      have : (s ++ [0])[k + i] = (s.drop k)[i] := by
        rw [List.getElem_append_left (by omega)]; simp
      rw [this, hp]
    · have hinc := evalE_incdec_ptr (st := { mem := m, loc := [.ptr b (k + i : Nat)] }) (k := 0) true true rfl
        (h.ptrAdd (k + i : Nat) 1 (by omega) (by omega))
      rw [show ((k + i : Nat) : Int) + 1 = ((k + (i + 1) : Nat) : Int) by omega] at hinc
      exact exec_expr_ok hinc
  · have hj : k + span spc (s.drop k) < (s ++ [0]).length := by simp; omega
    rw [ltrim_test m b _ h _ hj]
    by_cases hlt : span spc (s.drop k) < (s.drop k).length
    · have := span_stop spc (s.drop k) hlt
      simp only [List.length_drop] at hlt
      have e : (s ++ [0])[k + span spc (s.drop k)] = (s.drop k)[span spc (s.drop k)] := by
        rw [List.getElem_append_left (by omega)]; simp
      rw [e, this]
    · simp only [List.length_drop] at hlt
      have e : (s ++ [0])[k + span spc (s.drop k)] = 0 := by
        rw [List.getElem_append_right (by omega)]; simp
      rw [e]; rfl

/-- `ltrim` (lib/libeconf_ext.c): no fault, memory untouched, the pointer moves over exactly the leading blanks -/
theorem C_ltrim (m : Mem) (b : Nat) (s : List UInt8) (h : MemBytes m b (s ++ [0])) (fuel : Nat) (hf : s.length < fuel) :
    exec fuel LeafFns.ltrim.body { mem := m, loc := [.ptr b 0] } =
      .ret (.ptr b ((s.takeWhile Econf.isSpace).length : Nat)) { mem := m, loc := [.ptr b ((s.takeWhile Econf.isSpace).length : Nat)] } := by
  have := ltrim_exec m b s h 0 (Nat.zero_le _) fuel hf
  rw [isSpace_eq_spc]
  simpa [span] using this

/-! ## `rtrim` (lib/libeconf_ext.c) -/

theorem getElem_reverse_drop {α} (s : List α) (k j : Nat) (hj : j < s.length - k) :
    (s.drop k).reverse[j]'(by simp; omega) = s[s.length - j - 1]'(by omega) := by
  rw [List.getElem_reverse]
  simp only [List.getElem_drop, List.length_drop]
  congr 1; omega

/-- the condition of `rtrim`'s loop: `isspace(*--back)` -/
abbrev rtrimTest : Expr :=
  .call "isspace" (.cons (.cast .i32 (.load (.deref (.incdec (.var 1) false false .ptr)) .i8)) .nil)

theorem rtrim_test (m : Mem) (b : Nat) (cells : List UInt8) (h : MemBytes m b cells) (v0 : Val) (a : Nat) (ha : 1 ≤ a) (ha' : a ≤ cells.length) :
    testOf (some rtrimTest)
        { mem := m, loc := [v0, .ptr b a] } =
      .ok (spc (cells[a - 1]'(by omega)), { mem := m, loc := [v0, .ptr b (a - 1 : Nat)] }) := by
  have hinc := evalE_incdec_ptr (st := { mem := m, loc := [v0, .ptr b a] }) (k := 1) false false rfl
    (h.ptrAdd a (-1) (by omega) (by omega))
  rw [show (a : Int) + -1 = ((a - 1 : Nat) : Int) by omega] at hinc
  exact isspace_test (evalE_load_deref hinc h (by omega))

/-- `rtrim`'s loop walks back from the terminator over the `n` trailing blanks of the string at offset `k`, which is not all blanks -/
theorem rtrim_loop {m : Mem} {b : Nat} {s : List UInt8} (h : MemBytes m b (s ++ [0])) (k : Nat) (v0 : Val) {n : Nat}
    (hnd : span spc (s.drop k).reverse = n) (hn : n < s.length - k) (fuel : Nat) (hf : s.length < fuel) :
    exec fuel (.while rtrimTest .skip)
        { mem := m, loc := [v0, .ptr b (s.length : Nat)] } = .normal { mem := m, loc := [v0, .ptr b (s.length - n - 1 : Nat)] } := by
  have hrev : ∀ j (hj : j < s.length - k), (s ++ [0])[s.length - j - 1]'(by simp; omega) =
      (s.drop k).reverse[j]'(by simp; omega) := fun j hj => by
    rw [List.getElem_append_left (by omega), getElem_reverse_drop s k j hj]
  rw [exec_while]
  refine loop_count' _ _ _ n (fun j => { mem := m, loc := [v0, .ptr b (s.length - j : Nat)] })
    (fun j => { mem := m, loc := [v0, .ptr b (s.length - j - 1 : Nat)] }) _ ?_ ?_ fuel (by omega)
  · intro j hj
    obtain ⟨h', hp⟩ := span_lt spc (s.drop k).reverse j (by omega)
    refine ⟨?_, { mem := m, loc := [v0, .ptr b (s.length - j - 1 : Nat)] }, Or.inl rfl, ?_⟩
    · rw [rtrim_test m b _ h _ (s.length - j) (by omega) (by simp; omega), hrev j (by omega), hp]
    · rw [show s.length - (j + 1) = s.length - j - 1 by omega]; rfl
  · have hstop := span_stop spc (s.drop k).reverse (by simp; omega)
    simp only [hnd] at hstop
    rw [rtrim_test m b _ h _ (s.length - n) (by omega) (by simp; omega), hrev n hn, hstop]

/-- `rtrim` (lib/libeconf_ext.c) on the string at offset `k`: no fault, returns its argument, a NUL is written behind the last
    non-blank byte, other blocks untouched.  `hpre`: the string is empty or not all blanks, which is what `trim` establishes by calling
    `ltrim` first; on blanks only the C loop would walk below the string. -/
theorem rtrim_exec (m : Mem) (b : Nat) (s : List UInt8) (h : MemBytes m b (s ++ [0])) (hs : (0 : UInt8) ∉ s)
    (k : Nat) (hk : k ≤ s.length) (hpre : s.drop k ≠ [] → span spc (s.drop k).reverse < (s.drop k).length)
    (fuel : Nat) (hf : s.length < fuel) :
    ∃ m' loc', exec fuel LeafFns.rtrim.body { mem := m, loc := [.ptr b k, .undef] } = .ret (.ptr b k) { mem := m', loc := loc' } ∧
      MemBytes m' b ((s ++ [0]).set (s.length - span spc (s.drop k).reverse) 0) ∧ m'.length = m.length ∧
      ∀ b', b' ≠ b → m'[b']? = m[b']? := by
  have hstr := h.cstr hs k hk
  simp only [LeafFns.rtrim]
  by_cases ht : s.drop k = []
  · -- the empty string: returned at once, nothing is written
    have hk' : k = s.length := by
      have := congrArg List.length ht; simp at this; omega
    refine ⟨m, [.ptr b k, .undef], ?_, ?_, rfl, fun _ _ => rfl⟩
    · simp [mc_exec, mc_eval, testOf, builtin_strlen, hstr, ht, binop, cmpInt, convert, truth, boolVal, wrapTo, Ty.bits, Ty.signed]
    · have : span spc (s.drop k).reverse = 0 := by simp [ht, span]
      rw [this, Nat.sub_zero]
      have : (s ++ [0]).set s.length 0 = s ++ [0] := by
        simp [List.set_append_right]
      rwa [this]
  · -- at least one byte: the loop walks back over the trailing blanks and stops at a non-blank byte
    have hn := hpre ht
    simp only [List.length_drop] at hn
    generalize hnd : span spc (s.drop k).reverse = n at hn ⊢
    have hne : s.length - k ≠ 0 := by omega
    have hadd := h.ptrAdd k (s.length - k : Nat) (by omega) (by simp; omega)
    rw [show (k : Int) + ((s.length - k : Nat) : Int) = (s.length : Nat) by omega] at hadd
    obtain ⟨m', hst, hm', hlen', hoth⟩ := h.store8 (s.length - n) (by simp; omega) 0
    rw [show sch 0 = 0 by decide] at hst
    have hp1 : evalE (.bin .add (.load (.var 1) .ptr) (.lit 1 .i32) .ptr) { mem := m, loc := [.ptr b k, .ptr b (s.length - n - 1 : Nat)] } =
        .ok (.ptr b (s.length - n : Nat), { mem := m, loc := [.ptr b k, .ptr b (s.length - n - 1 : Nat)] }) := by
      have := h.ptrAdd (s.length - n - 1 : Nat) 1 (by omega) (by simp; omega)
      rw [show ((s.length - n - 1 : Nat) : Int) + 1 = ((s.length - n : Nat) : Int) by omega] at this
      simp [mc_eval, binop, this]
    have hstore := exec_expr_ok (fuel := fuel) (evalE_store_char_lit 0 (by decide) (by decide) hp1 hst)
    refine ⟨m', [.ptr b k, .ptr b (s.length - n - 1 : Nat)], ?_, hm', hlen', hoth⟩
    refine exec_seq_step (st' := { mem := m, loc := [.ptr b k, .undef] }) ?_ ?_
    · simp [mc_exec, mc_eval, testOf, builtin_strlen, hstr, binop, cmpInt, convert, truth, boolVal, wrapTo, Ty.bits, Ty.signed, hne]
    refine exec_seq_step (st' := { mem := m, loc := [.ptr b k, .ptr b (s.length : Nat)] }) ?_ ?_
    · simp [mc_exec, mc_eval, builtin_strlen, hstr, binop, hadd, convert]
    refine exec_seq_step (rtrim_loop h k (.ptr b k) hnd hn fuel hf) (exec_seq_step hstore ?_)
    simp [mc_exec, mc_eval]

/-! ## `trim` (lib/libeconf_ext.c): `ltrim`, then `rtrim` -/

/-- behind its leading blanks a string is empty or starts with a non-blank byte, so what is left does not consist of blanks only -/
theorem span_reverse_drop_lt (l : List UInt8) (hne : l.drop (span spc l) ≠ []) :
    span spc (l.drop (span spc l)).reverse < (l.drop (span spc l)).length := by
  generalize hls : span spc l = ls at hne ⊢
  have hlt : ls < l.length := by
    have := List.length_pos_iff.2 hne
    simp only [List.length_drop] at this; omega
  have hstop := span_stop spc l (by rw [hls]; exact hlt)
  simp only [hls] at hstop
  rcases Nat.lt_or_ge (span spc (l.drop ls).reverse) (l.drop ls).length with h1 | h1
  · exact h1
  · exfalso
    have hle := span_le spc (l.drop ls).reverse
    have heq : span spc (l.drop ls).reverse = (l.drop ls).reverse.length := by
      simp only [List.length_reverse] at hle ⊢; omega
    have hmem : l[ls] ∈ (l.drop ls).reverse := by
      rw [List.mem_reverse]
      exact List.mem_of_getElem (l := l.drop ls) (i := 0) (h := by simp only [List.length_drop]; omega) (by simp)
    rw [span_eq_length spc _ heq _ hmem] at hstop
    cases hstop

/-- `trim` is safe on every string: `ltrim` first leaves a string that is empty or starts with a non-blank byte, which is
    what `rtrim` needs in order not to walk below the string -/
theorem trim_exec (m : Mem) (b : Nat) (s : List UInt8) (h : MemBytes m b (s ++ [0])) (hs : (0 : UInt8) ∉ s)
    (k : Nat) (hk : k ≤ s.length) (fuel : Nat) (hf : s.length < fuel) :
    ∃ m' loc', exec fuel LeafFns.trim.body { mem := m, loc := [.ptr b k, .undef, .undef] } =
        .ret (.ptr b (k + span spc (s.drop k) : Nat)) { mem := m', loc := loc' } ∧
      MemBytes m' b ((s ++ [0]).set (s.length - span spc (s.drop (k + span spc (s.drop k))).reverse) 0) ∧
      m'.length = m.length ∧ ∀ b', b' ≠ b → m'[b']? = m[b']? := by
  have hl := ltrim_exec m b s h k hk fuel hf
  have hn := span_le spc (s.drop k)
  simp only [List.length_drop] at hn
  generalize hls : span spc (s.drop k) = ls at hl hn
  have hk2 : k + ls ≤ s.length := by omega
  have hpre : s.drop (k + ls) ≠ [] → span spc (s.drop (k + ls)).reverse < (s.drop (k + ls)).length := by
    rw [show s.drop (k + ls) = (s.drop k).drop ls by rw [List.drop_drop], ← hls]
    exact span_reverse_drop_lt (s.drop k)
  obtain ⟨m', loc', hr, hm', hlen', hoth⟩ := rtrim_exec m b s h hs (k + ls) hk2 hpre fuel hf
  refine ⟨m', [.ptr b k, .ptr b (k + ls : Nat), .ptr b (k + ls : Nat)], ?_, hm', hlen', hoth⟩
  simp only [LeafFns.trim]
  have c1 := exec_inl_var (fuel := fuel) (args := .cons (.load (.var 0) .ptr) .nil) (nl := 1) (body := LeafFns.ltrim.body)
    (st := { mem := m, loc := [.ptr b k, .undef, .undef] }) (st1 := { mem := m, loc := [.ptr b k, .undef, .undef] })
    (vs := [.ptr b k]) (i := 2) (by simp [mc_eval]) hl (by simp)
  rw [exec_seq_normal c1]
  have c2 := exec_inl_var (fuel := fuel) (args := .cons (.load (.var 2) .ptr) .nil) (nl := 2) (body := LeafFns.rtrim.body)
    (st := { mem := m, loc := [.ptr b k, .undef, .ptr b (k + ls : Nat)] }) (st1 := { mem := m, loc := [.ptr b k, .undef, .ptr b (k + ls : Nat)] })
    (vs := [.ptr b (k + ls : Nat)]) (i := 1) (by simp [mc_eval]) hr (by simp)
  simp only [List.set_cons_succ, List.set_cons_zero] at c2 ⊢
  rw [exec_seq_normal c2]
  simp [mc_exec, mc_eval]

theorem dropWhile_eq_drop_span (p : UInt8 → Bool) (l : List UInt8) : l.dropWhile p = l.drop (span p l) := by
  have := List.drop_left (l₁ := l.takeWhile p) (l₂ := l.dropWhile p)
  rw [List.takeWhile_append_dropWhile] at this
  exact this.symm

theorem dropLastWhile_eq_take (p : UInt8 → Bool) (l : List UInt8) :
    Econf.dropLastWhile p l = l.take (l.length - span p l.reverse) := by
  simp only [Econf.dropLastWhile, dropWhile_eq_drop_span]
  rw [List.drop_reverse]
  simp

/-- the list-level model's `trim` is what the translated `trim` leaves -/
theorem trim_eq (s : List UInt8) :
    Econf.trim s = (s.drop (span spc s)).take (s.length - span spc s - span spc (s.drop (span spc s)).reverse) := by
  simp only [Econf.trim, isSpace_eq_spc, dropWhile_eq_drop_span, dropLastWhile_eq_take, List.length_drop]

theorem set_split (s : List UInt8) (j : Nat) (hj : j ≤ s.length) :
    (s ++ [0]).set j 0 = s.take j ++ 0 :: (s ++ [0]).drop (j + 1) := by
  rw [List.set_eq_take_append_cons_drop, if_pos (by simp; omega), List.take_append_of_le_length hj]

/-- `trim` (lib/libeconf_ext.c), for every string: no fault, the pointer returned is behind the leading blanks, and the C string
    there is the model's `trim` of the text -/
theorem C_trim (m : Mem) (b : Nat) (s : List UInt8) (h : MemBytes m b (s ++ [0])) (hs : (0 : UInt8) ∉ s)
    (fuel : Nat) (hf : s.length < fuel) :
    ∃ m' loc', exec fuel LeafFns.trim.body { mem := m, loc := [.ptr b 0, .undef, .undef] } =
        .ret (.ptr b ((s.takeWhile Econf.isSpace).length : Nat)) { mem := m', loc := loc' } ∧
      m'.cstr b ((s.takeWhile Econf.isSpace).length : Nat) = .ok (Econf.trim s) ∧
      m'.length = m.length ∧ ∀ b', b' ≠ b → m'[b']? = m[b']? := by
  obtain ⟨m', loc', hr, hm', hlen', hoth⟩ := trim_exec m b s h hs 0 (Nat.zero_le _) fuel hf
  simp only [Nat.zero_add, List.drop_zero, Int.natCast_zero] at hr hm'
  have hls := span_le spc s
  generalize hlsd : span spc s = ls at hr hm' hls
  have hrs := span_le spc (s.drop ls).reverse
  simp only [List.length_reverse, List.length_drop] at hrs
  generalize hrsd : span spc (s.drop ls).reverse = rs at hm' hrs
  have hls' : (s.takeWhile spc).length = ls := hlsd
  refine ⟨m', loc', ?_, ?_, hlen', hoth⟩
  · rw [isSpace_eq_spc, hls']; exact hr
  · have hj : s.length - rs ≤ s.length := by omega
    rw [set_split s _ hj] at hm'
    have hsplit : s.take (s.length - rs) = s.take ls ++ (s.drop ls).take (s.length - ls - rs) := by
      have : s.length - rs = ls + (s.length - ls - rs) := by omega
      rw [this, List.take_add]
    rw [hsplit] at hm'
    have hnz : (0 : UInt8) ∉ (s.drop ls).take (s.length - ls - rs) := fun hm0 => hs (List.mem_of_mem_drop (List.mem_of_mem_take hm0))
    have := hm'.cstr_at hnz
    have hl : (s.take ls).length = ls := by simp; omega
    rw [hl] at this
    rw [isSpace_eq_spc, trim_eq, hlsd, hrsd, hls']
    exact this

/-! ## `toLowerCase` (lib/helpers.c) -/

/-- the byte `toLowerCase` stores for the byte `c` -/
def lw (c : UInt8) : UInt8 := byteOf (wrapTo .i8 (toLower (sch c)))

theorem lw_eq (c : UInt8) : lw c = Econf.toLower c := by
  have h : ∀ n : Fin 256, lw (UInt8.ofNat n.val) = Econf.toLower (UInt8.ofNat n.val) := by decide +kernel
  have := h ⟨c.toNat, c.toNat_lt⟩
  simpa using this

/-- cells after the first `i` bytes from offset `k` on have been lowered -/
def lowered (cells : List UInt8) (k : Nat) : Nat → List UInt8
  | 0 => cells
  | i + 1 => (lowered cells k i).set (k + i) (lw (cells.getD (k + i) 0))

theorem lowered_length (cells : List UInt8) (k : Nat) : ∀ i, (lowered cells k i).length = cells.length
  | 0 => rfl
  | i + 1 => by simp [lowered, lowered_length cells k i]

theorem lowered_get_ge (cells : List UInt8) (k : Nat) : ∀ i j (hj : j < cells.length), k + i ≤ j →
    (lowered cells k i)[j]'(by rw [lowered_length]; exact hj) = cells[j]
  | 0, j, hj, _ => rfl
  | i + 1, j, hj, hle => by
    simp only [lowered]
    rw [List.getElem_set_ne (by omega)]
    exact lowered_get_ge cells k i j hj (by omega)

/-- the body of `toLowerCase`'s loop: `*p = tolower(*p); p++` -/
abbrev tlBody : Stmt :=
  .seq (.expr (.assign (.deref (.load (.var 0) .ptr)) (.cast .i8 (.call "tolower" (.cons (.cast .i32 (.load
    (.deref (.load (.var 0) .ptr)) .i8)) .nil))) .i8)) (.expr (.incdec (.var 0) true true .ptr))

theorem tl_body {m : Mem} {b : Nat} {cells : List UInt8} (p : Nat) (v1 : Val) (h : MemBytes m b cells) (hp : p < cells.length)
    (fuel : Nat) :
    ∃ m', exec fuel tlBody
        { mem := m, loc := [.ptr b p, v1] } = .normal { mem := m', loc := [.ptr b (p + 1 : Nat), v1] } ∧
      MemBytes m' b (cells.set p (lw cells[p])) ∧ m'.length = m.length ∧ ∀ b', b' ≠ b → m'[b']? = m[b']? := by
  obtain ⟨m', hst, hm', hlen, hoth⟩ := h.store8_int p hp (wrapTo .i8 (toLower (sch cells[p])))
  refine ⟨m', ?_, hm', hlen, hoth⟩
  have hptr : evalE (.load (.var 0) .ptr) { mem := m, loc := [.ptr b p, v1] } = .ok (.ptr b p, { mem := m, loc := [.ptr b p, v1] }) :=
    evalE_var (ty := .ptr) rfl (by simp)
  have hld := evalE_load_deref hptr h hp
  have hrhs : evalE (.cast .i8 (.call "tolower" (.cons (.cast .i32 (.load (.deref (.load (.var 0) .ptr)) .i8)) .nil)))
      { mem := m, loc := [.ptr b p, v1] } = .ok (.int (wrapTo .i8 (toLower (sch cells[p]))), { mem := m, loc := [.ptr b p, v1] }) := by
    simp [mc_eval, hld, convert, builtin_tolower, wrapTo_i32_sch]
  rw [← wrapTo_i8_idem] at hst
  exact exec_seq_step (exec_expr_ok (evalE_store_deref hptr hrhs hst))
    (exec_expr_ok (evalE_incdec_ptr (st := { mem := m', loc := [.ptr b p, v1] }) (k := 0) true true rfl
      (hm'.ptrAdd p 1 (by omega) (by simp; omega))))

/-- `toLowerCase` (lib/helpers.c) from offset `k`: no fault, returns its argument, every byte from there up to the terminator is
    replaced by `tolower` of it, other blocks untouched -/
theorem toLowerCase_exec (m : Mem) (b : Nat) (s : List UInt8) (h : MemBytes m b (s ++ [0])) (hs : (0 : UInt8) ∉ s)
    (k : Nat) (hk : k ≤ s.length) (fuel : Nat) (hf : s.length < fuel) :
    ∃ m' loc', exec fuel LeafFns.toLowerCase.body { mem := m, loc := [.ptr b k, .undef] } = .ret (.ptr b k) { mem := m', loc := loc' } ∧
      MemBytes m' b (lowered (s ++ [0]) k (s.length - k)) ∧ m'.length = m.length ∧ ∀ b', b' ≠ b → m'[b']? = m[b']? := by
  -- in round `i` the byte at the pointer is `s[k + i]`, the cells from there on being untouched; at the end it is the terminator
  have hcell : ∀ i (hle : k + i ≤ s.length), ∃ hi : k + i < (lowered (s ++ [0]) k i).length,
      (lowered (s ++ [0]) k i)[k + i] = (s ++ [0])[k + i]'(by simp; omega) := fun i hi =>
    ⟨by rw [lowered_length]; simp; omega, lowered_get_ge _ _ _ _ (by simp; omega) (Nat.le_refl _)⟩
  have hloop := loop_inv (testOf (some (.load (.deref (.load (.var 0) .ptr)) .i8)))
    (exec fuel tlBody) (stepOf none)
    (fun R => R.loc = [.ptr b (s.length : Nat), .ptr b k] ∧ MemBytes R.mem b (lowered (s ++ [0]) k (s.length - k)) ∧ R.mem.length = m.length ∧
      ∀ b', b' ≠ b → R.mem[b']? = m[b']?)
    (s.length - k)
    (fun i st => st.loc = [.ptr b (k + i : Nat), .ptr b k] ∧ MemBytes st.mem b (lowered (s ++ [0]) k i) ∧ st.mem.length = m.length ∧
      ∀ b', b' ≠ b → st.mem[b']? = m[b']?)
    ?_ ?_ { mem := m, loc := [.ptr b k, .ptr b k] } fuel ⟨by simp, h, rfl, fun _ _ => rfl⟩ (by omega)
  · obtain ⟨⟨Rm, Rl⟩, hl, hloc, hm', hlen', hoth⟩ := hloop
    simp only at hloc hm' hlen' hoth
    subst hloc
    refine ⟨Rm, [.ptr b (s.length : Nat), .ptr b k], ?_, hm', hlen', hoth⟩
    refine exec_seq_step (st' := { mem := m, loc := [.ptr b k, .ptr b k] }) ?_ (exec_seq_step hl ?_)
    · simp [mc_exec, mc_eval, convert]
    · simp [mc_exec, mc_eval]
  · -- one round: the byte is not NUL, it is replaced by its lower-case form, the pointer moves on
    intro i ⟨stm, stl⟩ hi ⟨hloc, hmem, hlen, hoth⟩
    simp only at hloc hmem hlen hoth
    subst hloc
    have hki : k + i < s.length := by omega
    obtain ⟨hki', hget⟩ := hcell i (by omega)
    rw [List.getElem_append_left hki] at hget
    have hc0 : s[k + i] ≠ 0 := fun h0 => hs (h0 ▸ List.getElem_mem _)
    have ht := testOf_char (evalE_load_deref (st := { mem := stm, loc := [.ptr b (k + i : Nat), .ptr b k] })
      (e := .load (.var 0) .ptr) (evalE_var (ty := .ptr) rfl (by simp)) hmem hki')
    obtain ⟨m2, hbody, hm2, hlen2, hoth2⟩ := tl_body (k + i) (.ptr b k) hmem hki' fuel
    rw [hget] at ht hm2
    rw [bne_iff_ne.2 hc0] at ht
    refine ⟨_, _, _, ht, Or.inl hbody, rfl, rfl, ?_, hlen2.trans hlen, fun b' hb' => by rw [hoth2 b' hb', hoth b' hb']⟩
    simp only [lowered]
    have hd : (s ++ [0]).getD (k + i) 0 = s[k + i] := by
      simp [List.getD_eq_getElem?_getD, List.getElem?_append_left hki, List.getElem?_eq_getElem hki]
    rw [hd]
    exact hm2
  · -- the end: the byte at the pointer is the terminator
    intro ⟨stm, stl⟩ ⟨hloc, hmem, hlen, hoth⟩
    simp only at hloc hmem hlen hoth
    subst hloc
    have hkn : k + (s.length - k) = s.length := by omega
    obtain ⟨hki', hget⟩ := hcell (s.length - k) (by omega)
    simp only [hkn] at hki' hget
    rw [List.getElem_append_right (by omega)] at hget
    simp only [Nat.sub_self, List.getElem_cons_zero] at hget
    have ht := testOf_char (evalE_load_deref (st := { mem := stm, loc := [.ptr b (s.length : Nat), .ptr b k] })
      (e := .load (.var 0) .ptr) (evalE_var (ty := .ptr) rfl (by simp)) hmem hki')
    rw [hget] at ht
    refine ⟨_, by rw [hkn]; exact ht, rfl, hmem, hlen, hoth⟩

theorem lowered_closed (cells : List UInt8) : ∀ i, i ≤ cells.length →
    lowered cells 0 i = (cells.take i).map lw ++ cells.drop i
  | 0, _ => by simp [lowered]
  | i + 1, hi => by
    have ih := lowered_closed cells i (by omega)
    have hlen : ((cells.take i).map lw).length = i := by simp; omega
    have h2 : cells.drop i = cells[i] :: cells.drop (i + 1) := by rw [List.drop_eq_getElem_cons]
    have h1 : cells.take (i + 1) = cells.take i ++ [cells[i]] := by rw [List.take_succ_eq_append_getElem]
    simp only [lowered, Nat.zero_add, ih]
    rw [List.set_append_right _ _ (by omega), hlen, Nat.sub_self, h2, List.set_cons_zero, h1]
    have : cells.getD i 0 = cells[i] := by simp [List.getD_eq_getElem?_getD, List.getElem?_eq_getElem (show i < cells.length by omega)]
    rw [this]
    simp only [List.map_take, List.map_append, List.map_cons, List.map_nil, List.append_assoc, List.singleton_append]

theorem lowered_string (s : List UInt8) : lowered (s ++ [0]) 0 s.length = Econf.lower s ++ [0] := by
  rw [lowered_closed _ _ (by simp)]
  have hf : lw = Econf.toLower := funext lw_eq
  simp [Econf.lower, hf]

/-- `toLowerCase` (lib/helpers.c): no fault, and the string is the model's `lower` of the text -/
theorem C_toLowerCase (m : Mem) (b : Nat) (s : List UInt8) (h : MemBytes m b (s ++ [0])) (hs : (0 : UInt8) ∉ s)
    (fuel : Nat) (hf : s.length < fuel) :
    ∃ m' loc', exec fuel LeafFns.toLowerCase.body { mem := m, loc := [.ptr b 0, .undef] } = .ret (.ptr b 0) { mem := m', loc := loc' } ∧
      m'.cstr b 0 = .ok (Econf.lower s) ∧ m'.length = m.length ∧ ∀ b', b' ≠ b → m'[b']? = m[b']? := by
  obtain ⟨m', loc', hr, hm', hlen', hoth⟩ := toLowerCase_exec m b s h hs 0 (Nat.zero_le _) fuel hf
  simp only [Nat.sub_zero, Int.natCast_zero] at hr hm'
  rw [lowered_string] at hm'
  refine ⟨m', loc', hr, ?_, hlen', hoth⟩
  have hnz : (0 : UInt8) ∉ Econf.lower s := by
    intro hm0
    obtain ⟨c, hc, hc0⟩ := List.mem_map.1 hm0
    have hcne : c ≠ 0 := fun h0 => hs (h0 ▸ hc)
    have h : ∀ n : Fin 256, Econf.toLower (UInt8.ofNat n.val) = 0 → UInt8.ofNat n.val = (0 : UInt8) := by decide +kernel
    have := h ⟨c.toNat, c.toNat_lt⟩ (by simpa using hc0)
    exact hcne (by simpa using this)
  have hm2 : MemBytes m' b (Econf.lower s ++ 0 :: []) := hm'
  exact hm2.cstr0 hnz

/-! ## `stripbrackets` (lib/helpers.c) -/

/-- cells of the block while `stripbrackets` copies: the first `i` bytes behind the bracket have been moved one place down -/
def shifted (s : List UInt8) (i : Nat) : List UInt8 := (s.drop 1).take i ++ (s ++ [0]).drop i

theorem shifted_zero (s : List UInt8) : shifted s 0 = s ++ [0] := by simp [shifted]

theorem shifted_length (s : List UInt8) (i : Nat) (hi : i + 1 ≤ s.length) : (shifted s i).length = s.length + 1 := by
  simp [shifted]; omega

theorem shifted_get_succ (s : List UInt8) (i : Nat) (hi : i + 1 < s.length) :
    (shifted s i)[i + 1]'(by rw [shifted_length s i (by omega)]; omega) = s[i + 1] := by
  have hlen : ((s.drop 1).take i).length = i := by simp; omega
  simp only [shifted]
  rw [List.getElem_append_right (by omega)]
  simp only [hlen, List.getElem_drop]
  rw [List.getElem_append_left (by omega)]
  congr 1; omega

theorem shifted_set_eq (s : List UInt8) (i : Nat) (x : UInt8) (hi : i + 1 ≤ s.length) :
    (shifted s i).set i x = (s.drop 1).take i ++ x :: (s ++ [0]).drop (i + 1) := by
  have hlen : ((s.drop 1).take i).length = i := by simp; omega
  have h2 : (s ++ [0]).drop i = (s ++ [0])[i]'(by simp; omega) :: (s ++ [0]).drop (i + 1) := by
    rw [List.drop_eq_getElem_cons]
  simp only [shifted]
  rw [List.set_append_right _ _ (by omega), hlen, Nat.sub_self, h2, List.set_cons_zero]

theorem shifted_set (s : List UInt8) (i : Nat) (hi : i + 1 < s.length) :
    (shifted s i).set i (s[i + 1]) = shifted s (i + 1) := by
  rw [shifted_set_eq s i _ (by omega), shifted, List.take_succ_eq_append_getElem (by simp; omega)]
  simp

/-- what `stripbrackets` leaves: the text between a leading `[` and the first `]`, if the string also ends with `]` -/
def stripSpec (s : List UInt8) : List UInt8 :=
  if s.head? = some 91 ∧ s.getLast? = some 93 then (s.drop 1).takeWhile (· != 93) else s

theorem stripSpec_eq (s : List UInt8) : stripSpec s = Econf.stripBrackets s := by
  cases s with
  | nil => simp [stripSpec, Econf.stripBrackets]
  | cons c cs =>
    simp only [stripSpec, Econf.stripBrackets, List.head?_cons, Option.some.injEq, List.drop_succ_cons, List.drop_zero,
      Econf.LBR, Econf.RBR, Bool.and_eq_true, beq_iff_eq]

/-- a string in brackets, read off the bytes the C code looks at: the first, and the one before the terminator -/
theorem bracketed_iff (s : List UInt8) : (s.head? = some 91 ∧ s.getLast? = some 93) ↔
    ∃ hp : 0 < s.length, s[0] = 91 ∧ s[s.length - 1] = 93 := by
  cases s with
  | nil => simp
  | cons c t =>
    simp only [List.head?_cons, List.getLast?_eq_getElem?, List.length_cons, Nat.zero_lt_succ, exists_true_left,
      List.getElem_cons_zero, Option.some.injEq]
    rw [List.getElem?_eq_getElem (by simp)]
    simp

/-- `p[0] == '[' && p[n] == ']'`, where `n` is what `e` evaluates to when the string is not empty: `strlen(p) - 1` -/
theorem brackets_test {st : St} {b : Nat} {s : List UInt8} (h : MemBytes st.mem b (s ++ [0]))
    (hv : st.loc[0]? = some (.ptr b 0)) (e : Expr)
    (he : 0 < s.length → evalE e st = .ok (.int (s.length - 1 : Nat), st)) :
    evalE (.land (.bin .eq (.cast .i32 (.load (.deref (.load (.var 0) .ptr)) .i8)) (.lit 91 .i32) .i32)
      (.bin .eq (.cast .i32 (.load (.deref (.bin .add (.load (.var 0) .ptr) e .ptr)) .i8)) (.lit 93 .i32) .i32)) st =
      .ok (boolVal (decide (s.head? = some 91 ∧ s.getLast? = some 93)), st) := by
  have hp : evalE (.load (.var 0) .ptr) st = .ok (.ptr b (0 : Nat), st) := evalE_var (ty := .ptr) hv (by simp)
  have h91 : sch 91 = 91 := by decide
  have h93 : sch 93 = 93 := by decide
  have hfirst := evalE_load_deref hp h (by simp)
  have hiff := bracketed_iff s
  by_cases hpos : 0 < s.length
  · have hlast : evalE (.load (.deref (.bin .add (.load (.var 0) .ptr) e .ptr)) .i8) st =
        .ok (.int (sch s[s.length - 1]), st) := by
      have hadd : evalE (.bin .add (.load (.var 0) .ptr) e .ptr) st = .ok (.ptr b (s.length - 1 : Nat), st) := by
        have := h.ptrAdd (0 : Nat) (s.length - 1 : Nat) (by omega) (by simp; omega)
        simp only [Int.natCast_zero, Int.zero_add] at this
        simp [mc_eval, hp, he hpos, binop, this]
      have := evalE_load_deref hadd h (by simp; omega)
      rwa [List.getElem_append_left (by omega)] at this
    rw [List.getElem_append_left hpos] at hfirst
    simp only [hpos, exists_true_left] at hiff
    simp [mc_eval, hfirst, hlast, convert, wrapTo_i32_sch, binop, cmpInt, boolVal, truth, hiff, ← h91, ← h93, sch_eq_iff]
    by_cases hc : s[0] = 91 <;> simp [hc]
  · have hnil : s = [] := List.eq_nil_of_length_eq_zero (by omega)
    subst hnil
    have hne : sch 0 ≠ 91 := by decide
    simp [mc_eval, hfirst, convert, wrapTo_i32_sch, binop, cmpInt, boolVal, truth, hne]

/-- in a string in brackets the first `]` is found `q + 1` bytes in, before the end, and the `q` bytes between are the result -/
theorem strip_span {s : List UInt8} (hc : s.head? = some 91 ∧ s.getLast? = some 93) {q : Nat}
    (hq : span (fun c => c != 93) (s.drop 1) = q) :
    ∃ hlt : q + 1 < s.length, s[q + 1] = 93 ∧ (∀ i (hi : i < q), s[i + 1]'(Nat.lt_trans (Nat.succ_lt_succ hi) hlt) ≠ 93) ∧
      stripSpec s = (s.drop 1).take q := by
  obtain ⟨hp, hfirst, hlast⟩ := (bracketed_iff s).1 hc
  have hL2 : 2 ≤ s.length := by
    rcases Nat.lt_or_ge s.length 2 with h1 | h1
    · have h0 : s.length - 1 = 0 := by omega
      simp only [h0] at hlast
      rw [hfirst] at hlast; exact absurd hlast (by decide)
    · exact h1
  have hqle := span_le (fun c => c != 93) (s.drop 1)
  rw [hq, List.length_drop] at hqle
  have hidx : ∀ i (hi : i + 1 < s.length), (s.drop 1)[i]'(by rw [List.length_drop]; omega) = s[i + 1] := by
    intro i hi
    simp only [List.getElem_drop]; congr 1; omega
  have hqlt : q < s.length - 1 := by
    rcases Nat.lt_or_ge q (s.length - 1) with h' | h'
    · exact h'
    · -- otherwise no byte behind the first would be ']', but the last one is
      exfalso
      have heq : span (fun c => c != 93) (s.drop 1) = (s.drop 1).length := by rw [hq, List.length_drop]; omega
      have hl2 : s.length - 2 + 1 < s.length := by omega
      have hall := span_eq_length _ _ heq _ (List.getElem_mem (l := s.drop 1) (n := s.length - 2) (by rw [List.length_drop]; omega))
      have e : s[s.length - 2 + 1]'hl2 = s[s.length - 1]'(by omega) := by congr 1; omega
      rw [hidx _ hl2, e, hlast] at hall
      exact absurd hall (by decide)
  refine ⟨by omega, ?_, ?_, ?_⟩
  · have := span_stop (fun c => c != 93) (s.drop 1) (by rw [hq, List.length_drop]; omega)
    simp only [hq] at this
    rw [hidx q (by omega)] at this
    simpa using this
  · intro i hi
    obtain ⟨_, hp'⟩ := span_lt (fun c => c != 93) (s.drop 1) i (by rw [hq]; exact hi)
    rw [hidx i (by omega)] at hp'
    simpa using hp'
  · simp only [stripSpec, hc, and_self, if_true]
    rw [← hq, span]
    exact List.prefix_iff_eq_take.1 (List.takeWhile_prefix _)

/-- the condition of `stripbrackets`' loop: `*++p != ']'` -/
abbrev sbTest : Expr :=
  .bin .ne (.cast .i32 (.load (.deref (.incdec (.var 0) true false .ptr)) .i8)) (.lit 93 .i32) .i32

/-- its body: `*q++ = *p` -/
abbrev sbBody : Stmt :=
  .expr (.assign (.deref (.incdec (.var 2) true true .ptr)) (.load (.deref (.load (.var 0) .ptr)) .i8) .i8)

theorem sb_test {m : Mem} {b : Nat} {cells : List UInt8} (p : Nat) (v1 v2 v3 : Val) (h : MemBytes m b cells)
    (hp : p + 1 < cells.length) :
    testOf (some sbTest)
        { mem := m, loc := [.ptr b p, v1, v2, v3] } =
      .ok (cells[p + 1] != 93, { mem := m, loc := [.ptr b (p + 1 : Nat), v1, v2, v3] }) := by
  have hinc := evalE_incdec_ptr (st := { mem := m, loc := [.ptr b p, v1, v2, v3] }) (k := 0) true false rfl
    (h.ptrAdd p 1 (by omega) (by omega))
  have hld := evalE_load_deref (i := p + 1) hinc h hp
  have h93 : sch 93 = 93 := by decide
  simp [testOf, mc_eval, hld, convert, wrapTo_i32_sch, binop, cmpInt, boolVal, truth, ← h93, sch_eq_iff]
  by_cases hc : cells[p + 1] = 93 <;> simp [hc]

theorem sb_body {m : Mem} {b : Nat} {cells : List UInt8} (p q : Nat) (v1 v3 : Val) (h : MemBytes m b cells)
    (hp : p < cells.length) (hq : q < cells.length) (fuel : Nat) :
    ∃ m', exec fuel sbBody
        { mem := m, loc := [.ptr b p, v1, .ptr b q, v3] } = .normal { mem := m', loc := [.ptr b p, v1, .ptr b (q + 1 : Nat), v3] } ∧
      MemBytes m' b (cells.set q cells[p]) ∧ m'.length = m.length ∧ ∀ b', b' ≠ b → m'[b']? = m[b']? := by
  obtain ⟨m', hst, hm'⟩ := h.store8 q hq cells[p]
  refine ⟨m', ?_, hm'⟩
  have hinc := evalE_incdec_ptr (st := { mem := m, loc := [.ptr b p, v1, .ptr b q, v3] }) (k := 2) true true rfl
    (h.ptrAdd q 1 (by omega) (by omega))
  have hsrc := evalE_load_deref (st := { mem := m, loc := [.ptr b p, v1, .ptr b (q + 1 : Nat), v3] })
    (e := .load (.var 0) .ptr) (i := p) (evalE_var (ty := .ptr) rfl (by simp)) h hp
  rw [← wrapTo_i8_sch] at hst
  exact exec_expr_ok (evalE_store_deref hinc hsrc hst)

/-- `stripbrackets` (lib/helpers.c): no fault, returns its argument, the string left in place is `stripSpec`, other blocks untouched -/
theorem stripbrackets_exec (m : Mem) (b : Nat) (s : List UInt8) (h : MemBytes m b (s ++ [0])) (hs : (0 : UInt8) ∉ s)
    (hsmall : (s.length : Int) < 18446744073709551616) (fuel : Nat) (hf : s.length < fuel) :
    ∃ m' loc', exec fuel LeafFns.stripbrackets.body { mem := m, loc := [.ptr b 0, .undef, .undef, .undef] } =
        .ret (.ptr b 0) { mem := m', loc := loc' } ∧
      m'.cstr b 0 = .ok (stripSpec s) ∧ m'.length = m.length ∧ ∀ b', b' ≠ b → m'[b']? = m[b']? := by
  have hstr := h.cstr hs 0 (Nat.zero_le _)
  simp only [Int.natCast_zero, List.drop_zero] at hstr
  have hpre : ∀ rest : Stmt, exec fuel
      (.seq (.ite (.un .lnot (.load (.var 0) .ptr) .i32) (.ret (some .null)) .skip)
        (.seq (.expr (.assign (.var 1) (.load (.var 0) .ptr) .ptr))
          (.seq (.expr (.assign (.var 2) (.load (.var 0) .ptr) .ptr))
            (.seq (.expr (.assign (.var 3) (.bin .sub (.call "strlen" (.cons (.load (.var 0) .ptr) .nil)) (.cast .u64 (.lit 1 .i32)) .u64) .u64))
              rest))))
      { mem := m, loc := [.ptr b 0, .undef, .undef, .undef] } =
      exec fuel rest { mem := m, loc := [.ptr b 0, .ptr b 0, .ptr b 0, .int (wrapTo .u64 ((s.length : Int) - 1))] } := by
    intro rest
    simp [mc_exec, mc_eval, testOf, builtin_strlen, hstr, binop, cmpInt, unop, convert,
      truth, boolVal, arith, Ty.signed, wrapTo_u64_small 1 (by decide) (by decide), wrapTo_u64_idem]
  simp only [LeafFns.stripbrackets]
  rw [hpre]
  -- does the string start with '[' and end with ']'?
  have hidx : 0 < s.length → wrapTo .u64 ((s.length : Int) - 1) = ((s.length - 1 : Nat) : Int) :=
    fun hp => wrapTo_u64_pred _ hp hsmall
  have htest := testOf_boolVal (brackets_test (s := s)
    (st := { mem := m, loc := [.ptr b 0, .ptr b 0, .ptr b 0, .int (wrapTo .u64 ((s.length : Int) - 1))] }) h rfl
    (.load (.var 3) .u64) (fun hp => by rw [hidx hp]; exact evalE_var (ty := .u64) rfl (by simp)))
  by_cases hcond : s.head? = some 91 ∧ s.getLast? = some 93
  · -- yes: the bytes behind the bracket are moved down until the first ']' is met, then the string is terminated
    rw [decide_eq_true hcond] at htest
    have hp : 0 < s.length := ((bracketed_iff s).1 hcond).1
    rw [hidx hp] at htest ⊢
    -- q: number of bytes between the bracket and the first ']'
    generalize hq : span (fun c => c != 93) (s.drop 1) = q
    obtain ⟨hqlt, hstopq, hbefore, hspec⟩ := strip_span hcond hq
    have hloop := loop_inv
      (testOf (some sbTest))
      (exec fuel sbBody) (stepOf none)
      (fun R => R.loc = [.ptr b (q + 1 : Nat), .ptr b 0, .ptr b (q : Nat), .int ((s.length - 1 : Nat) : Int)] ∧ MemBytes R.mem b (shifted s q) ∧
        R.mem.length = m.length ∧ ∀ b', b' ≠ b → R.mem[b']? = m[b']?)
      q
      (fun i st => st.loc = [.ptr b (i : Nat), .ptr b 0, .ptr b (i : Nat), .int ((s.length - 1 : Nat) : Int)] ∧ MemBytes st.mem b (shifted s i) ∧
        st.mem.length = m.length ∧ ∀ b', b' ≠ b → st.mem[b']? = m[b']?)
      ?_ ?_ { mem := m, loc := [.ptr b 0, .ptr b 0, .ptr b 0, .int ((s.length - 1 : Nat) : Int)] } fuel
      ⟨rfl, by rw [shifted_zero]; exact h, rfl, fun _ _ => rfl⟩ (by omega)
    · obtain ⟨⟨Rm, Rl⟩, hl, hloc, hmR, hlenR, hothR⟩ := hloop
      simp only at hloc hmR hlenR hothR
      subst hloc
      rw [← exec_while] at hl
      obtain ⟨m', hst, hm', hlen', hoth'⟩ := hmR.store8 q (by rw [shifted_length s q (by omega)]; omega) 0
      rw [shifted_set_eq s q 0 (by omega)] at hm'
      refine ⟨m', [.ptr b (q + 1 : Nat), .ptr b 0, .ptr b (q : Nat), .int ((s.length - 1 : Nat) : Int)], ?_, ?_, hlen'.trans hlenR,
        fun b' hb' => by rw [hoth' b' hb', hothR b' hb']⟩
      · have hfin := exec_expr_ok (fuel := fuel) (evalE_store_char_lit (e := .load (.var 2) .ptr)
          (st := { mem := Rm, loc := [.ptr b (q + 1 : Nat), .ptr b 0, .ptr b (q : Nat), .int ((s.length - 1 : Nat) : Int)] })
          0 (by decide) (by decide) (evalE_var (ty := .ptr) rfl (by simp)) hst)
        rw [exec_seq_normal (by rw [exec_ite_true htest, exec_seq_normal hl, hfin])]
        simp [mc_exec, mc_eval]
      · have hnz : (0 : UInt8) ∉ (s.drop 1).take q := fun hm0 => hs (List.mem_of_mem_drop (List.mem_of_mem_take hm0))
        rw [hm'.cstr0 hnz, hspec]
    · -- one round: the next byte is not ']' and is copied one place down
      intro i ⟨stm, stl⟩ hi ⟨hloc, hmem, hlenst, hothst⟩
      simp only at hloc hmem hlenst hothst
      subst hloc
      have hi1 : i + 1 < s.length := by omega
      have hslen := shifted_length s i (by omega)
      have hget := shifted_get_succ s i hi1
      have ht := sb_test i (.ptr b 0) (.ptr b (i : Nat)) (.int ((s.length - 1 : Nat) : Int)) hmem (by rw [hslen]; omega)
      obtain ⟨m2, hbody, hm2, hlen2, hoth2⟩ := sb_body (i + 1) i (.ptr b 0) (.int ((s.length - 1 : Nat) : Int)) hmem
        (by rw [hslen]; omega) (by rw [hslen]; omega) fuel
      rw [hget] at ht hm2
      rw [shifted_set s i hi1] at hm2
      rw [bne_iff_ne.2 (hbefore i hi)] at ht
      exact ⟨_, _, _, ht, Or.inl hbody, rfl, rfl, hm2, hlen2.trans hlenst, fun b' hb' => by rw [hoth2 b' hb', hothst b' hb']⟩
    · -- the end: the next byte is the first ']'
      intro ⟨stm, stl⟩ ⟨hloc, hmem, hlenst, hothst⟩
      simp only at hloc hmem hlenst hothst
      subst hloc
      have ht := sb_test q (.ptr b 0) (.ptr b (q : Nat)) (.int ((s.length - 1 : Nat) : Int)) hmem
        (by rw [shifted_length s q (by omega)]; omega)
      rw [shifted_get_succ s q hqlt, hstopq] at ht
      exact ⟨_, ht, rfl, hmem, hlenst, hothst⟩
  · -- no: nothing is written
    rw [decide_eq_false hcond] at htest
    refine ⟨m, [.ptr b 0, .ptr b 0, .ptr b 0, .int (wrapTo .u64 ((s.length : Int) - 1))], ?_, ?_, rfl, fun _ _ => rfl⟩
    · simp [mc_exec, mc_eval, htest]
    · rw [show stripSpec s = s by simp [stripSpec, hcond]]
      exact hstr

/-- `stripbrackets` (lib/helpers.c): no fault, and the string is the model's `stripBrackets` of the text -/
theorem C_stripbrackets (m : Mem) (b : Nat) (s : List UInt8) (h : MemBytes m b (s ++ [0])) (hs : (0 : UInt8) ∉ s)
    (hsmall : (s.length : Int) < 18446744073709551616) (fuel : Nat) (hf : s.length < fuel) :
    ∃ m' loc', exec fuel LeafFns.stripbrackets.body { mem := m, loc := [.ptr b 0, .undef, .undef, .undef] } =
        .ret (.ptr b 0) { mem := m', loc := loc' } ∧
      m'.cstr b 0 = .ok (Econf.stripBrackets s) ∧ m'.length = m.length ∧ ∀ b', b' ≠ b → m'[b']? = m[b']? := by
  have := stripbrackets_exec m b s h hs hsmall fuel hf
  rwa [stripSpec_eq] at this

/-! ## `check_delim` (lib/getfilecontents.c) -/

/-- number of rounds of `check_delim`'s loop: up to the first position where both kinds of byte have been seen -/
def stopIdx : List UInt8 → Bool → Bool → Nat
  | [], _, _ => 0
  | c :: cs, w, n => if w && n then 0 else 1 + stopIdx cs (w || spc c) (n || !spc c)

/-- some byte is a blank: what `*has_wsp` holds when the bytes `l` have been seen -/
def anyW (l : List UInt8) : Bool := l.any spc

/-- some byte is not a blank: likewise `*has_nonwsp` -/
def anyN (l : List UInt8) : Bool := l.any (fun c => !spc c)

theorem stopIdx_le : ∀ (l : List UInt8) (w n : Bool), stopIdx l w n ≤ l.length
  | [], _, _ => by simp [stopIdx]
  | c :: cs, w, n => by
    simp only [stopIdx]
    split
    · simp
    · have := stopIdx_le cs (w || spc c) (n || !spc c); simp; omega

theorem stopIdx_before : ∀ (l : List UInt8) (w n : Bool) (i : Nat), i < stopIdx l w n →
    ¬ ((w || anyW (l.take i)) = true ∧ (n || anyN (l.take i)) = true)
  | [], w, n, i, h => by simp [stopIdx] at h
  | c :: cs, w, n, i, h => by
    simp only [stopIdx] at h
    split at h
    · omega
    · rename_i hwn
      cases i with
      | zero => simpa [anyW, anyN] using hwn
      | succ i =>
        have := stopIdx_before cs (w || spc c) (n || !spc c) i (by omega)
        simpa [anyW, anyN, List.take_succ_cons, List.any_cons, Bool.or_assoc] using this

/-- at the stop index the string is used up or both flags are set; in both cases the flags have their final values -/
theorem stopIdx_at : ∀ (l : List UInt8) (w n : Bool),
    (stopIdx l w n = l.length ∨ ((w || anyW (l.take (stopIdx l w n))) = true ∧ (n || anyN (l.take (stopIdx l w n))) = true)) ∧
    (w || anyW (l.take (stopIdx l w n))) = (w || anyW l) ∧ (n || anyN (l.take (stopIdx l w n))) = (n || anyN l)
  | [], w, n => by simp [stopIdx, anyW, anyN]
  | c :: cs, w, n => by
    simp only [stopIdx]
    split
    · rename_i hwn
      simp only [Bool.and_eq_true] at hwn
      simp [hwn.1, hwn.2, anyW, anyN]
    · have ih := stopIdx_at cs (w || spc c) (n || !spc c)
      have e : 1 + stopIdx cs (w || spc c) (n || !spc c) = stopIdx cs (w || spc c) (n || !spc c) + 1 := by omega
      rw [e]
      simp only [List.take_succ_cons, List.length_cons, anyW, anyN, List.any_cons] at ih ⊢
      refine ⟨?_, ?_, ?_⟩
      · rcases ih.1 with h | h
        · left; omega
        · right; simpa [Bool.or_assoc] using h
      · simpa [Bool.or_assoc] using ih.2.1
      · simpa [Bool.or_assoc] using ih.2.2

theorem load_flag {m : Mem} {b : Nat} {f : Bool} (h : MemBytes m b [b2u f]) : m.load8 b 0 = .ok (if f then 1 else 0) := by
  have := h.load8 0 (by simp)
  simp only [Int.natCast_zero, List.getElem_cons_zero] at this
  rw [this]
  cases f <;> simp [b2u, sch_eq]

theorem wrapTo_i32_u32_sch (c : UInt8) : wrapTo .i32 (wrapTo .u32 (sch c)) = sch c := by
  have hr := sch_range c
  simp only [wrapTo, Ty.bits, Ty.signed, show (Ty.u32 == Ty.bool) = false from rfl, show (Ty.i32 == Ty.bool) = false from rfl,
    Bool.false_eq_true, if_false, Bool.false_and, Bool.true_and, show ((2 : Int) ^ 32) = 4294967296 by decide,
    decide_eq_true_eq]
  split <;> omega

theorem anyW_take_succ (s : List UInt8) (i : Nat) (hi : i < s.length) : anyW (s.take (i + 1)) = (anyW (s.take i) || spc s[i]) := by
  rw [List.take_succ_eq_append_getElem hi]; simp only [anyW, List.any_append, List.any_cons, List.any_nil, Bool.or_false]

theorem anyN_take_succ (s : List UInt8) (i : Nat) (hi : i < s.length) : anyN (s.take (i + 1)) = (anyN (s.take i) || !spc s[i]) := by
  rw [List.take_succ_eq_append_getElem hi]; simp only [anyN, List.any_append, List.any_cons, List.any_nil, Bool.or_false]

/-- the condition of `check_delim`'s loop, `*c && !(*has_wsp && *has_nonwsp)`, for the `char` `v` at the pointer and flags `W`, `N` -/
theorem cd_test (m : Mem) (bs bw bn : Nat) (i : Int) (v : Int) (W N : Bool) (l0 : Val)
    (h1 : m.load8 bs i = .ok v) (hv : -128 ≤ v ∧ v < 128)
    (h2 : m.load8 bw 0 = .ok (if W then 1 else 0)) (h3 : m.load8 bn 0 = .ok (if N then 1 else 0)) :
    testOf (some (.land (.cast .i32 (.load (.deref (.load (.var 3) .ptr)) .i8)) (.un .lnot
        (.land (.cast .i32 (.load (.deref (.load (.var 1) .ptr)) .bool)) (.cast .i32 (.load (.deref (.load (.var 2) .ptr)) .bool))) .i32)))
        { mem := m, loc := [l0, .ptr bw 0, .ptr bn 0, .ptr bs i] } =
      .ok (decide (v ≠ 0) && !(W && N), { mem := m, loc := [l0, .ptr bw 0, .ptr bn 0, .ptr bs i] }) := by
  have hw32 : wrapTo .i32 v = v := wrapTo_i32 v (by omega) (by omega)
  have w0 : wrapTo .i32 0 = 0 := wrapTo_i32 0 (by decide) (by decide)
  have w1 : wrapTo .i32 1 = 1 := wrapTo_i32 1 (by decide) (by decide)
  have b0 : wrapTo .bool 0 = 0 := by simp [wrapTo]
  have b1 : wrapTo .bool 1 = 1 := by simp [wrapTo]
  by_cases hz : v = 0
  · subst hz
    simp [mc_eval, testOf, h1, convert, w0, truth, boolVal]
  · cases W <;> cases N <;>
      simp [mc_eval, testOf, h1, h2, h3, convert, hw32, hz, truth, boolVal, unop, w0, w1, b0, b1]

/-- the body of `check_delim`'s loop: `if (isspace((unsigned)*c)) *has_wsp = true; else *has_nonwsp = true;` -/
abbrev cdBody : Stmt :=
  .ite (.call "isspace" (.cons (.cast .i32 (.cast .u32 (.load (.deref (.load (.var 3) .ptr)) .i8))) .nil))
    (.expr (.assign (.deref (.load (.var 1) .ptr)) (.cast .bool (.lit 1 .i32)) .bool))
    (.expr (.assign (.deref (.load (.var 2) .ptr)) (.cast .bool (.lit 1 .i32)) .bool))

theorem cd_body {m : Mem} {bs bw bn : Nat} {c : UInt8} {i : Int} (l0 : Val) (W N : Bool) (hld : m.load8 bs i = .ok (sch c))
    (hw : MemBytes m bw [b2u W]) (hn : MemBytes m bn [b2u N]) (d3 : bw ≠ bn) (fuel : Nat) :
    ∃ m', exec fuel cdBody
        { mem := m, loc := [l0, .ptr bw 0, .ptr bn 0, .ptr bs i] } = .normal { mem := m', loc := [l0, .ptr bw 0, .ptr bn 0, .ptr bs i] } ∧
      MemBytes m' bw [b2u (W || spc c)] ∧ MemBytes m' bn [b2u (N || !spc c)] ∧ m'.length = m.length ∧
      ∀ b', b' ≠ bw → b' ≠ bn → m'[b']? = m[b']? := by
  have b1 : wrapTo .bool 1 = 1 := by simp [wrapTo]
  by_cases hsp : spc c = true
  · obtain ⟨m3, hst3, hm3, hl3, ho3⟩ := hw.toCell.store 1
    rw [byteOf_one] at hm3
    have hsp2 : isSpace (sch c) = true := hsp
    refine ⟨m3, ?_, by simpa [hsp, b2u] using hm3, by simpa [hsp] using hn.frame ho3 (Ne.symm d3), hl3, fun b' h1 _ => ho3 b' h1⟩
    simp [mc_exec, mc_eval, testOf, builtin_isspace, hld, convert, wrapTo_i32_u32_sch, truth, hsp2, hst3, b1, Ty.bits]
  · have hsp' : spc c = false := by simpa using hsp
    obtain ⟨m3, hst3, hm3, hl3, ho3⟩ := hn.toCell.store 1
    rw [byteOf_one] at hm3
    have hsp2 : isSpace (sch c) = false := hsp'
    refine ⟨m3, ?_, by simpa [hsp'] using hw.frame ho3 d3, by simpa [hsp', b2u] using hm3, hl3, fun b' _ h2 => ho3 b' h2⟩
    simp [mc_exec, mc_eval, testOf, builtin_isspace, hld, convert, wrapTo_i32_u32_sch, truth, hsp2, hst3, b1, Ty.bits]

/-- `check_delim` (lib/getfilecontents.c): no fault, `*has_wsp` and `*has_nonwsp` end up saying whether the string has a blank and
    whether it has a non-blank byte, the string and all other blocks are untouched -/
theorem check_delim_exec (m : Mem) (bs bw bn : Nat) (s : List UInt8) (h : MemBytes m bs (s ++ [0])) (hs : (0 : UInt8) ∉ s)
    (hw : MemCell m bw) (hn : MemCell m bn) (d1 : bs ≠ bw) (d2 : bs ≠ bn) (d3 : bw ≠ bn) (fuel : Nat) (hf : s.length < fuel) :
    ∃ m' loc', exec fuel LeafFns.check_delim.body { mem := m, loc := [.ptr bs 0, .ptr bw 0, .ptr bn 0, .undef] } =
        .normal { mem := m', loc := loc' } ∧
      MemBytes m' bw [b2u (s.any spc)] ∧ MemBytes m' bn [b2u (s.any (fun c => !spc c))] ∧ MemBytes m' bs (s ++ [0]) ∧
      m'.length = m.length ∧ ∀ b', b' ≠ bw → b' ≠ bn → m'[b']? = m[b']? := by
  -- `*has_wsp = *has_nonwsp = false`
  obtain ⟨m1, hst1, hm1n, hl1, ho1⟩ := hn.store 0
  obtain ⟨m2, hst2, hm2w, hl2, ho2⟩ := (hw.frame ho1 d3).store 0
  rw [byteOf_zero] at hm1n hm2w
  have hm2n : MemBytes m2 bn [b2u false] := hm1n.frame ho2 (Ne.symm d3)
  have hm2s : MemBytes m2 bs (s ++ [0]) := (h.frame ho1 d2).frame ho2 d1
  have hstop := stopIdx_le s false false
  have hloop := loop_inv
    (testOf (some (.land (.cast .i32 (.load (.deref (.load (.var 3) .ptr)) .i8)) (.un .lnot
      (.land (.cast .i32 (.load (.deref (.load (.var 1) .ptr)) .bool)) (.cast .i32 (.load (.deref (.load (.var 2) .ptr)) .bool))) .i32))))
    (exec fuel cdBody)
    (stepOf (some (.incdec (.var 3) true true .ptr)))
    (fun R => MemBytes R.mem bw [b2u (s.any spc)] ∧ MemBytes R.mem bn [b2u (s.any (fun c => !spc c))] ∧ MemBytes R.mem bs (s ++ [0]) ∧
      R.mem.length = m.length ∧ ∀ b', b' ≠ bw → b' ≠ bn → R.mem[b']? = m[b']?)
    (stopIdx s false false)
    (fun i st => st.loc = [.ptr bs 0, .ptr bw 0, .ptr bn 0, .ptr bs (i : Nat)] ∧ MemBytes st.mem bw [b2u (anyW (s.take i))] ∧
      MemBytes st.mem bn [b2u (anyN (s.take i))] ∧ MemBytes st.mem bs (s ++ [0]) ∧
      st.mem.length = m.length ∧ ∀ b', b' ≠ bw → b' ≠ bn → st.mem[b']? = m[b']?)
    ?_ ?_ { mem := m2, loc := [.ptr bs 0, .ptr bw 0, .ptr bn 0, .ptr bs 0] } fuel
    ⟨by simp, by simpa [anyW, b2u] using hm2w, by simpa [anyN, b2u] using hm2n, hm2s, by rw [hl2, hl1],
      fun b' h1 h2 => by rw [ho2 b' h1, ho1 b' h2]⟩ (by omega)
  · obtain ⟨⟨Rm, Rl⟩, hl, hR⟩ := hloop
    refine ⟨Rm, Rl, ?_, hR⟩
    refine exec_seq_step (st' := { mem := m2, loc := [.ptr bs 0, .ptr bw 0, .ptr bn 0, .undef] }) ?_ ?_
    · simp [mc_exec, mc_eval, convert, wrapTo, hst1, hst2, Ty.bits]
    refine exec_seq_step (st' := { mem := m2, loc := [.ptr bs 0, .ptr bw 0, .ptr bn 0, .undef] }) ?_ ?_
    · simp [mc_exec, mc_eval, testOf, binop, boolVal, truth]
    refine exec_seq_step (st' := { mem := m2, loc := [.ptr bs 0, .ptr bw 0, .ptr bn 0, .ptr bs 0] }) ?_ hl
    simp [mc_exec, mc_eval, convert]
  · -- one round: not both flags are set yet, the byte is not NUL; its flag is set and the pointer moves on
    intro i ⟨stm, stl⟩ hi ⟨hloc, hmw, hmn, hms, hlen, hoth⟩
    simp only at hloc hmw hmn hms hlen hoth
    subst hloc
    have hiL : i < s.length := by omega
    have hld := hms.load8 i (by simp; omega)
    rw [List.getElem_append_left hiL] at hld
    have hnz : sch s[i] ≠ 0 := fun h0 => hs (((sch_zero_iff _).1 h0) ▸ List.getElem_mem _)
    have hnb := stopIdx_before s false false i hi
    simp only [Bool.false_or] at hnb
    have htest := cd_test stm bs bw bn (i : Nat) (sch s[i]) (anyW (s.take i)) (anyN (s.take i)) (.ptr bs 0) hld (sch_range _)
      (load_flag hmw) (load_flag hmn)
    have htrue : (decide (sch s[i] ≠ 0) && !(anyW (s.take i) && anyN (s.take i))) = true := by
      cases hW : anyW (s.take i) <;> cases hN : anyN (s.take i) <;> simp [hW, hN, hnz] at hnb ⊢
    rw [htrue] at htest
    obtain ⟨m3, hbody, hmw3, hmn3, hl3, ho3⟩ := cd_body (.ptr bs 0) _ _ hld hmw hmn d3 fuel
    have hms3 : MemBytes m3 bs (s ++ [0]) := hms.of_block_eq (ho3 bs d1 d2)
    have hstep : stepOf (some (.incdec (.var 3) true true .ptr)) { mem := m3, loc := [.ptr bs 0, .ptr bw 0, .ptr bn 0, .ptr bs (i : Nat)] } =
        .ok { mem := m3, loc := [.ptr bs 0, .ptr bw 0, .ptr bn 0, .ptr bs (i + 1 : Nat)] } := by
      have := evalE_incdec_ptr (st := { mem := m3, loc := [.ptr bs 0, .ptr bw 0, .ptr bn 0, .ptr bs (i : Nat)] }) (k := 3) true true rfl
        (hms3.ptrAdd i 1 (by omega) (by simp; omega))
      simp [stepOf, mc_eval, this]
    refine ⟨_, _, _, htest, Or.inl hbody, hstep, rfl, ?_, ?_, hms3, hl3.trans hlen, fun b' h1 h2 => by rw [ho3 b' h1 h2, hoth b' h1 h2]⟩
    · rw [anyW_take_succ s i hiL]; exact hmw3
    · rw [anyN_take_succ s i hiL]; exact hmn3
  · intro st ⟨hloc, hmw, hmn, hms, hlen, hoth⟩
    obtain ⟨stm, stl⟩ := st
    simp only at hloc hmw hmn hms hlen hoth
    subst hloc
    obtain ⟨hor, hWf, hNf⟩ := stopIdx_at s false false
    simp only [Bool.false_or] at hor hWf hNf
    refine ⟨{ mem := stm, loc := [.ptr bs 0, .ptr bw 0, .ptr bn 0, .ptr bs (stopIdx s false false : Nat)] }, ?_,
      by rw [← show anyW s = s.any spc from rfl, ← hWf]; exact hmw, by rw [← show anyN s = s.any (fun c => !spc c) from rfl, ← hNf]; exact hmn, hms, hlen, hoth⟩
    have hlw := load_flag hmw
    have hln := load_flag hmn
    have hiL : stopIdx s false false ≤ s.length := hstop
    have hld := hms.load8 (stopIdx s false false) (by simp; omega)
    have htest := cd_test stm bs bw bn (stopIdx s false false : Nat) _ (anyW (s.take (stopIdx s false false))) (anyN (s.take (stopIdx s false false)))
      (.ptr bs 0) hld (sch_range _) hlw hln
    -- the string is used up (the byte is NUL) or both flags are set
    have hfalse : (decide (sch ((s ++ [0])[stopIdx s false false]'(by simp; omega)) ≠ 0) &&
        !(anyW (s.take (stopIdx s false false)) && anyN (s.take (stopIdx s false false)))) = false := by
      rcases hor with hL | ⟨hW, hN⟩
      · have : (s ++ [0])[stopIdx s false false]'(by simp; omega) = 0 := by
          rw [List.getElem_append_right (by omega)]; simp [hL]
        rw [this, show sch 0 = 0 by decide]
        rfl
      · rw [hW, hN]; simp
    rw [htest, hfalse]

/-- `check_delim` (lib/getfilecontents.c): no fault, the string is left alone, and the two flags are the model's `hasWsp` / `hasNonWsp` -/
theorem C_check_delim (m : Mem) (bs bw bn : Nat) (s : List UInt8) (h : MemBytes m bs (s ++ [0])) (hs : (0 : UInt8) ∉ s)
    (hw : MemCell m bw) (hn : MemCell m bn) (d1 : bs ≠ bw) (d2 : bs ≠ bn) (d3 : bw ≠ bn) (fuel : Nat) (hf : s.length < fuel) :
    ∃ m' loc', exec fuel LeafFns.check_delim.body { mem := m, loc := [.ptr bs 0, .ptr bw 0, .ptr bn 0, .undef] } =
        .normal { mem := m', loc := loc' } ∧
      MemBytes m' bw [b2u (Econf.hasWsp s)] ∧ MemBytes m' bn [b2u (Econf.hasNonWsp s)] ∧ MemBytes m' bs (s ++ [0]) := by
  obtain ⟨m', loc', h1, h2, h3, h4, _, _⟩ := check_delim_exec m bs bw bn s h hs hw hn d1 d2 d3 fuel hf
  refine ⟨m', loc', h1, ?_, ?_, h4⟩
  · simpa [Econf.hasWsp, isSpace_eq_spc] using h2
  · simpa [Econf.hasNonWsp, isSpace_eq_spc] using h3

/-! ## `hashstring` (lib/helpers.c) -/

/-- 2^64, the modulus of `size_t` arithmetic -/
def M64 : Int := 18446744073709551616

/-- one step of Bernstein's hash as the C code computes it in `size_t` -/
def djbStep (h : Int) (c : UInt8) : Int := (h * 33 + sch c) % M64

/-- Bernstein's hash as `hashstring` computes it -/
def djb2 (s : List UInt8) : Int := s.foldl djbStep 5381

theorem djb_arith (h c : Int) : ((h * 2 ^ 5 % M64 + h) % M64 + c % M64) % M64 = (h * 33 + c) % M64 := by
  have : (2 : Int) ^ 5 = 32 := by decide
  rw [this]
  simp only [M64]
  omega

/-- the condition of `hashstring`'s loop: `c = *str++` -/
abbrev hsTest : Expr := .assign (.var 2) (.load (.deref (.incdec (.var 0) true true .ptr)) .i8) .i8

/-- its body: `hash = ((hash << 5) + hash) + c` in `size_t` -/
abbrev hsBody : Stmt :=
  .expr (.assign (.var 1) (.bin .add (.bin .add (.bin .shl (.load (.var 1) .u64) (.lit 5 .i32) .u64) (.load (.var 1) .u64) .u64)
    (.cast .u64 (.load (.var 2) .i8)) .u64) .u64)

theorem hs_test {m : Mem} {b : Nat} {cells : List UInt8} (p : Nat) (v1 v2 : Val) (h : MemBytes m b cells) (hp : p < cells.length) :
    testOf (some hsTest) { mem := m, loc := [.ptr b p, v1, v2] } =
      .ok (cells[p] != 0, { mem := m, loc := [.ptr b (p + 1 : Nat), v1, .int (sch cells[p])] }) := by
  have hinc := evalE_incdec_ptr (st := { mem := m, loc := [.ptr b p, v1, v2] }) (k := 0) true true rfl
    (h.ptrAdd p 1 (by omega) (by omega))
  have hld := evalE_load_deref hinc h hp
  apply testOf_char
  simp [mc_eval, hld, convert, wrapTo_i8_sch]

theorem hs_body (m : Mem) (v0 : Val) (hv : Int) (c : UInt8) (fuel : Nat) :
    exec fuel hsBody { mem := m, loc := [v0, .int hv, .int (sch c)] } =
      .normal { mem := m, loc := [v0, .int (djbStep hv c), .int (sch c)] } := by
  simp [mc_exec, mc_eval, binop, cmpInt, arith, Ty.signed, Ty.bits, convert, wrapTo_u64, djbStep, M64]
  rw [show hv * 32 + hv + sch c = hv * 33 + sch c by omega]

/-- `hashstring` (lib/helpers.c): no fault, memory untouched, returns Bernstein's hash of the string in `size_t` arithmetic -/
theorem hashstring_exec (m : Mem) (b : Nat) (s : List UInt8) (h : MemBytes m b (s ++ [0])) (hs : (0 : UInt8) ∉ s)
    (fuel : Nat) (hf : s.length < fuel) :
    ∃ loc', exec fuel LeafFns.hashstring.body { mem := m, loc := [.ptr b 0, .undef, .undef] } = .ret (.int (djb2 s)) { mem := m, loc := loc' } := by
  have hloop := loop_inv
    (testOf (some hsTest))
    (exec fuel hsBody) (stepOf none)
    (fun R => R.mem = m ∧ R.loc = [.ptr b (s.length + 1 : Nat), .int (djb2 s), .int 0])
    s.length
    (fun i st => st.mem = m ∧ ∃ v2, st.loc = [.ptr b (i : Nat), .int (djb2 (s.take i)), v2])
    ?_ ?_ { mem := m, loc := [.ptr b 0, .int 5381, .undef] } fuel ⟨rfl, .undef, by simp [djb2]⟩ (by omega)
  · obtain ⟨⟨Rm, Rl⟩, hl, hm, hloc⟩ := hloop
    simp only at hm hloc
    subst hm; subst hloc
    refine ⟨[.ptr b (s.length + 1 : Nat), .int (djb2 s), .int 0], ?_⟩
    refine exec_seq_step (st' := { mem := _, loc := [.ptr b 0, .int 5381, .undef] }) ?_ (exec_seq_step hl ?_)
    · have : wrapTo .u64 5381 = 5381 := wrapTo_u64_small _ (by decide) (by decide)
      simp [mc_exec, mc_eval, convert, this]
    · simp [mc_exec, mc_eval]
  · -- one round: the byte is not NUL and goes into the hash
    intro i ⟨stm, stl⟩ hi ⟨hm, v2, hloc⟩
    simp only at hm hloc
    subst hm; subst hloc
    have ht := hs_test i (.int (djb2 (s.take i))) v2 h (by simp; omega)
    rw [List.getElem_append_left hi] at ht
    have hc0 : s[i] ≠ 0 := fun h0 => hs (h0 ▸ List.getElem_mem _)
    rw [bne_iff_ne.2 hc0] at ht
    have hnext : djb2 (s.take (i + 1)) = djbStep (djb2 (s.take i)) s[i] := by
      rw [List.take_succ_eq_append_getElem hi]; simp only [djb2, List.foldl_append, List.foldl_cons, List.foldl_nil]
    exact ⟨_, _, _, ht, Or.inl (hs_body stm _ _ _ fuel), rfl, rfl, _, by rw [hnext]⟩
  · -- the end: the terminator has been read
    intro ⟨stm, stl⟩ ⟨hm, v2, hloc⟩
    simp only at hm hloc
    subst hm; subst hloc
    have ht := hs_test s.length (.int (djb2 s)) v2 h (by simp)
    rw [List.getElem_append_right (by omega)] at ht
    simp only [Nat.sub_self, List.getElem_cons_zero, show sch 0 = 0 by decide] at ht
    rw [List.take_length]
    exact ⟨_, ht, rfl, rfl⟩

/-! ## `addbrackets` (lib/helpers.c) -/

/-- what `addbrackets` returns: the text itself when it starts with `[` and ends with `]`, otherwise the text in brackets -/
def addSpec (s : List UInt8) : List UInt8 :=
  if s.head? = some 91 ∧ s.getLast? = some 93 then s else 91 :: s ++ [93]

theorem addSpec_eq (s : List UInt8) : addSpec s = Econf.addBrackets s := by
  simp only [addSpec, Econf.addBrackets, Econf.LBR, Econf.RBR, Bool.and_eq_true, beq_iff_eq]

/-- the four stores by which `addbrackets` fills its new object -/
theorem ab_fill {m1 : Mem} {B : Nat} (s : List UInt8) (h : MemPart m1 B [] (s.length + 3)) :
    ∃ m2 m3 m4 m5, m1.store8 B 0 91 = .ok m2 ∧ m2.storeBytes B 1 (s ++ [0]) = .ok m3 ∧
      m3.store8 B (1 + (s.length : Int)) 93 = .ok m4 ∧ m4.store8 B (1 + (s.length : Int) + 1) 0 = .ok m5 ∧
      MemPart m3 B (91 :: s ++ [0]) 1 ∧ MemBytes m5 B (91 :: s ++ [93] ++ [0]) ∧ m5.length = m1.length ∧
      (∀ b', b' ≠ B → m2[b']? = m1[b']?) ∧ ∀ b', b' ≠ B → m5[b']? = m1[b']? := by
  obtain ⟨m2, hst2, hm2, hl2, ho2⟩ := (show MemPart m1 B [] ((s.length + 2) + 1) by simpa using h).store8 91
  rw [show byteOf 91 = 91 by decide] at hm2
  simp only [List.length_nil, Int.natCast_zero, List.nil_append] at hst2 hm2
  obtain ⟨m3, hst3, hm3, hl3, ho3⟩ :=
    (show MemPart m2 B [91] ((s ++ [0]).length + 1) by simpa [Nat.add_comm, Nat.add_left_comm, Nat.add_assoc] using hm2).storeBytes (s ++ [0])
  simp only [List.length_singleton, Int.natCast_one] at hst3
  obtain ⟨m4, hst4, hm4, hl4, ho4⟩ := hm3.store8_at (1 + s.length) (by simp; omega) 93
  have hset : ([91] ++ (s ++ [0])).set (1 + s.length) 93 = 91 :: s ++ [93] := by
    have : (91 :: s).length = 1 + s.length := by simp; omega
    rw [show ([91] ++ (s ++ [0])) = (91 :: s) ++ [0] by simp, List.set_append_right _ _ (by omega), this, Nat.sub_self]
    simp
  rw [show byteOf 93 = 93 by decide, hset] at hm4
  obtain ⟨m5, hst5, hm5, hl5, ho5⟩ := (show MemPart m4 B (91 :: s ++ [93]) (0 + 1) by simpa using hm4).store8 0
  rw [byteOf_zero] at hm5
  rw [show ((1 + s.length : Nat) : Int) = 1 + (s.length : Int) by omega] at hst4
  have e5 : ((91 :: s ++ [93]).length : Int) = 1 + (s.length : Int) + 1 := by simp; omega
  rw [e5] at hst5
  exact ⟨m2, m3, m4, m5, hst2, hst3, hst4, hst5, by simpa using hm3, hm5.toBytes, by rw [hl5, hl4, hl3, hl2], ho2,
    fun b' hb' => by rw [ho5 b' hb', ho4 b' hb', ho3 b' hb', ho2 b' hb']⟩

/-- `addbrackets` (lib/helpers.c): no fault, returns a new object that holds `addSpec` of the string (a copy, if it is in brackets
    already), the existing blocks untouched -/
theorem addbrackets_exec (m : Mem) (b : Nat) (s : List UInt8) (h : MemBytes m b (s ++ [0])) (hs : (0 : UInt8) ∉ s)
    (hsmall : (s.length : Int) + 3 < 18446744073709551616) (fuel : Nat) :
    ∃ m' loc', exec fuel LeafFns.addbrackets.body { mem := m, loc := [.ptr b 0, .undef, .undef, .undef] } =
        .ret (.ptr m.length 0) { mem := m', loc := loc' } ∧
      MemBytes m' m.length (addSpec s ++ [0]) ∧ m'.length = m.length + 1 ∧ ∀ b', b' < m.length → m'[b']? = m[b']? := by
  have hstr := h.cstr hs 0 (Nat.zero_le _)
  simp only [Int.natCast_zero, List.drop_zero] at hstr
  have hbm := h.lt_length
  have wL : wrapTo .u64 (s.length : Int) = s.length := wrapTo_u64_small _ (by omega) (by omega)
  have hpre : ∀ rest : Stmt, exec fuel
      (.seq (.ite (.bin .eq (.load (.var 0) .ptr) .null .i32) (.ret (some .null)) .skip)
        (.seq (.expr (.assign (.var 1) (.call "strlen" (.cons (.load (.var 0) .ptr) .nil)) .u64)) rest))
      { mem := m, loc := [.ptr b 0, .undef, .undef, .undef] } =
      exec fuel rest { mem := m, loc := [.ptr b 0, .int (s.length : Nat), .undef, .undef] } := by
    intro rest
    simp [mc_exec, mc_eval, testOf, builtin_strlen, hstr, binop, convert, truth, boolVal, wL]
  simp only [LeafFns.addbrackets]
  rw [hpre]
  -- the test: `!(s[0] == '[' && s[len - 1] == ']')`
  have htest := testOf_lnot (brackets_test (s := s) (st := { mem := m, loc := [.ptr b 0, .int (s.length : Nat), .undef, .undef] }) h rfl
    (.bin .sub (.load (.var 1) .u64) (.cast .u64 (.lit 1 .i32)) .u64) (fun hp => by
      simp [mc_eval, binop, cmpInt, arith, Ty.signed, convert, w64_one, wrapTo_u64_pred _ hp (by omega)]))
  by_cases hcond : s.head? = some 91 ∧ s.getLast? = some 93
  · -- already in brackets: a copy
    rw [decide_eq_true hcond] at htest
    rw [exec_seq_normal ((exec_ite_false htest).trans rfl)]
    obtain ⟨ha1, ha2, ha3, ha4⟩ := alloc_spec m (s.length + 1)
    have hp : MemPart (m.alloc (s.length + 1)).1 m.length [] ((s ++ [0]).length + 0) := by simpa using ha2
    obtain ⟨m', hst, hm', hl', ho'⟩ := hp.storeBytes (s ++ [0])
    simp only [List.length_nil, Int.natCast_zero] at hst
    refine ⟨m', [.ptr b 0, .int (s.length : Nat), .undef, .undef], ?_, ?_, by rw [hl', ha3], fun b' hb' => by rw [ho' b' (Nat.ne_of_lt hb'), ha4 b' hb']⟩
    · simp [mc_exec, mc_eval, builtin_strdup, hstr, Mem.alloc] at hst ⊢
      simp [hst]
    · rw [show addSpec s = s by simp [addSpec, hcond]]
      exact hm'.toBytes
  · -- not in brackets: a new object of strlen + 3 bytes is filled with '[', the text, ']' and the terminator
    rw [decide_eq_false hcond] at htest
    have wL3 : wrapTo .u64 ((s.length : Int) + 3) = ((s.length + 3 : Nat) : Int) := by
      rw [wrapTo_u64_small _ (by omega) (by omega)]; omega
    have w3 : wrapTo .u64 3 = 3 := wrapTo_u64_small 3 (by decide) (by decide)
    obtain ⟨ha1, ha2, ha3, ha4⟩ := alloc_spec m (s.length + 3)
    generalize hm1 : (m.alloc (s.length + 3)).1 = m1 at ha2 ha3 ha4
    have hnb : b ≠ m.length := Nat.ne_of_lt hbm
    obtain ⟨m2, m3, m4, m5, hst2, hst3, hst4, hst5, hp3, hm5, hl5, ho2, ho5⟩ := ab_fill s ha2
    have hsrc : MemBytes m2 b (s ++ [0]) := h.of_block_eq ((ho2 b hnb).trans (ha4 b hbm))
    have hstr2 := hsrc.cstr hs 0 (Nat.zero_le _)
    simp only [Int.natCast_zero, List.drop_zero] at hstr2
    -- the two `*p++ = c`
    have hS4 := exec_expr_ok (fuel := fuel) (evalE_store_char_lit 91 (by decide) (by decide)
      (evalE_incdec_ptr (st := { mem := m1, loc := [.ptr b 0, .int (s.length : Nat), .ptr m.length 0, .ptr m.length 0] }) (k := 3) true true rfl
        (ha2.ptrAdd 0 1 (by decide) (by simp; omega))) hst2)
    have hS6 := exec_expr_ok (fuel := fuel) (evalE_store_char_lit 93 (by decide) (by decide)
      (evalE_incdec_ptr (st := { mem := m3, loc := [.ptr b 0, .int (s.length : Nat), .ptr m.length 0, .ptr m.length (1 + (s.length : Int))] })
        (k := 3) true true rfl (hp3.ptrAdd (1 + (s.length : Int)) 1 (by omega) (by simp; omega))) hst4)
    have hS7 := exec_expr_ok (fuel := fuel) (evalE_store_char_lit 0 (by decide) (by decide)
      (evalE_var (st := { mem := m4, loc := [.ptr b 0, .int (s.length : Nat), .ptr m.length 0, .ptr m.length (1 + (s.length : Int) + 1)] })
        (v := 3) (ty := .ptr) rfl (by simp)) hst5)
    refine ⟨m5, [.ptr b 0, .int (s.length : Nat), .ptr m.length 0, .ptr m.length (1 + (s.length : Int) + 1)], ?_, ?_,
      by rw [hl5, ha3], fun b' hb' => by rw [ho5 b' (Nat.ne_of_lt hb'), ha4 b' hb']⟩
    · apply exec_seq_ret
      rw [exec_ite_true htest]
      refine exec_seq_step (st' := { mem := m1, loc := [.ptr b 0, .int (s.length : Nat), .ptr m.length 0, .undef] }) ?_ ?_
      · simp [mc_exec, mc_eval, builtin_malloc, binop, cmpInt, arith, Ty.signed, convert, w3]
        rw [show (s.length : Int) + 3 = ((s.length + 3 : Nat) : Int) by omega] at wL3 ⊢
        rw [wL3]
        simp [Mem.alloc] at hm1 ⊢
        exact hm1
      refine exec_seq_step (st' := { mem := m1, loc := [.ptr b 0, .int (s.length : Nat), .ptr m.length 0, .undef] }) ?_ ?_
      · simp [mc_exec, mc_eval, testOf, binop, boolVal, truth]
      refine exec_seq_step (st' := { mem := m1, loc := [.ptr b 0, .int (s.length : Nat), .ptr m.length 0, .ptr m.length 0] }) ?_ ?_
      · simp [mc_exec, mc_eval, convert]
      refine exec_seq_step hS4 ?_
      refine exec_seq_step (st' := { mem := m3, loc := [.ptr b 0, .int (s.length : Nat), .ptr m.length 0, .ptr m.length (1 + (s.length : Int))] }) ?_ ?_
      · simp [mc_exec, mc_eval, builtin_stpcpy, hstr2, hst3, convert]
      refine exec_seq_step hS6 (exec_seq_step hS7 ?_)
      simp [mc_exec, mc_eval]
    · rw [show addSpec s = 91 :: s ++ [93] by simp [addSpec, hcond]]
      exact hm5

/-- `addbrackets` (lib/helpers.c): no fault, the argument is left alone, and the new string is the model's `addBrackets` -/
theorem C_addbrackets (m : Mem) (b : Nat) (s : List UInt8) (h : MemBytes m b (s ++ [0])) (hs : (0 : UInt8) ∉ s)
    (hsmall : (s.length : Int) + 3 < 18446744073709551616) (fuel : Nat) :
    ∃ m' loc', exec fuel LeafFns.addbrackets.body { mem := m, loc := [.ptr b 0, .undef, .undef, .undef] } =
        .ret (.ptr m.length 0) { mem := m', loc := loc' } ∧
      MemBytes m' m.length (Econf.addBrackets s ++ [0]) ∧ m'.length = m.length + 1 ∧ ∀ b', b' < m.length → m'[b']? = m[b']? := by
  have := addbrackets_exec m b s h hs hsmall fuel
  rwa [addSpec_eq] at this

/-! ## `replace_str` (util/econftool.c) -/

/-- what `replace_str` leaves: the first occurrence of `o` replaced by `r`, when `r` is not longer than `o` -/
def replaceSpec (s o r : List UInt8) : List UInt8 :=
  if o.length < r.length then s
  else match findSub o s 0 with
    | none => s
    | some i => s.take i ++ r ++ s.drop (i + o.length)

theorem drop_append_split {α} (s : List α) (z : α) (a d : Nat) (h : a + d ≤ s.length) :
    (s ++ [z]).drop a = (s.drop a).take d ++ s.drop (a + d) ++ [z] := by
  rw [List.drop_append_of_le_length (by omega), ← List.drop_drop, List.take_append_drop]

theorem drop_take_mid {α} (A T : List α) (z : α) (n : Nat) (h : A.length = n) :
    ((A ++ T ++ [z]).drop n).take (T.length + 1) = T ++ [z] := by
  subst h
  simp only [List.append_assoc, List.drop_left']
  rw [show T.length + 1 = (T ++ [z]).length by simp, List.take_length]

theorem take_front {α} (A F T : List α) (z : α) (n : Nat) (h : A.length = n) :
    (A ++ F ++ T ++ [z]).take n = A := by
  subst h; simp [List.append_assoc]

/-- `memmove` of a string inside its block: behind `A` and a gap `F` there is the string `T`; it is still found there, and the
    copy of it (terminator included) to the place behind `A` leaves the string `A ++ T` at the start of the block -/
theorem move_up {m1 : Mem} {b : Nat} {A F T : List UInt8} (h : MemBytes m1 b (A ++ F ++ T ++ 0 :: [])) (hT : (0 : UInt8) ∉ T) :
    m1.cstr b ((A ++ F).length : Int) = .ok T ∧ m1.loadBytes b ((A ++ F).length : Int) (T.length + 1) = .ok (T ++ [0]) ∧
    ∃ m2, m1.storeBytes b (A.length : Int) (T ++ [0]) = .ok m2 ∧ ((0 : UInt8) ∉ A → m2.cstr b 0 = .ok (A ++ T)) ∧
      m2.length = m1.length ∧ ∀ b', b' ≠ b → m2[b']? = m1[b']? := by
  have hsrc := h.loadBytes (T.length + 1) (A ++ F).length
    (by simp only [List.length_append, List.length_cons, List.length_nil]; omega)
  rw [drop_take_mid _ _ _ _ rfl] at hsrc
  obtain ⟨m2, hst2, hm2, hl2, ho2⟩ := h.storeBytes_at (T ++ [0]) A.length
    (by simp only [List.length_append, List.length_cons, List.length_nil]; omega)
  rw [take_front _ _ _ _ _ rfl] at hm2
  refine ⟨h.cstr_at hT, hsrc, m2, hst2, fun hA => ?_, hl2, ho2⟩
  have hm2' : MemBytes m2 b (A ++ T ++ 0 :: (A ++ F ++ T ++ 0 :: []).drop (A.length + (T ++ [0]).length)) := by
    simpa using hm2
  exact hm2'.cstr0 (fun hm0 => (List.mem_append.1 hm0).elim hA hT)

/-- the memory side of `replace_str`, for an occurrence of `o` at offset `i` of `s` and `r` not longer than `o`: `memcpy` puts
    `r` there, the rest of the string still ends inside the block, and `memmove` draws it up behind `r` -/
theorem rs_mem {m : Mem} {b0 : Nat} {s o r : List UInt8} {i : Nat} (h0 : MemBytes m b0 (s ++ [0]))
    (hs : (0 : UInt8) ∉ s) (hr : (0 : UInt8) ∉ r) (hbnd : i + o.length ≤ s.length) (hrl : r.length ≤ o.length) :
    ∃ m1 m2, m.storeBytes b0 (i : Int) r = .ok m1 ∧
      ptrAdd m1 b0 i r.length = .ok (.ptr b0 ((i : Int) + (r.length : Int))) ∧
      ptrAdd m1 b0 i o.length = .ok (.ptr b0 ((i : Int) + (o.length : Int))) ∧
      m1.cstr b0 ((i : Int) + (o.length : Int)) = .ok (s.drop (i + o.length)) ∧
      m1.loadBytes b0 ((i : Int) + (o.length : Int)) (s.length - (i + o.length) + 1) = .ok (s.drop (i + o.length) ++ [0]) ∧
      m1.storeBytes b0 ((i : Int) + (r.length : Int)) (s.drop (i + o.length) ++ [0]) = .ok m2 ∧
      m2.cstr b0 0 = .ok (s.take i ++ r ++ s.drop (i + o.length)) ∧ m2.length = m.length ∧ ∀ b', b' ≠ b0 → m2[b']? = m[b']? := by
  have hsl : (s ++ [0]).length = s.length + 1 := by simp
  obtain ⟨m1, hst1, hm1, hl1, ho1⟩ := h0.storeBytes_at r i (by omega)
  -- the cells after the copy, seen as: [0, i+|r|) ++ filler ++ tail ++ NUL
  have hcells1 : (s ++ [0]).take i ++ r ++ (s ++ [0]).drop (i + r.length) =
      (s.take i ++ r) ++ (s.drop (i + r.length)).take (o.length - r.length) ++ s.drop (i + o.length) ++ 0 :: [] := by
    rw [List.take_append_of_le_length (by omega), drop_append_split s 0 (i + r.length) (o.length - r.length) (by omega),
      show i + r.length + (o.length - r.length) = i + o.length by omega]
    simp only [List.append_assoc]
  rw [hcells1] at hm1
  have hA : (s.take i).length = i := by rw [List.length_take]; exact Nat.min_eq_left (by omega)
  have hF : ((s.drop (i + r.length)).take (o.length - r.length)).length = o.length - r.length := by
    rw [List.length_take, List.length_drop]; exact Nat.min_eq_left (by omega)
  have hlen1 : (s.take i ++ r ++ (s.drop (i + r.length)).take (o.length - r.length) ++ s.drop (i + o.length) ++ 0 :: []).length =
      s.length + 1 := by
    simp only [List.length_append, hA, hF, List.length_drop, List.length_cons, List.length_nil]; omega
  have ha1 := hm1.ptrAdd i r.length (by omega) (by rw [hlen1]; omega)
  have ha2 := hm1.ptrAdd i o.length (by omega) (by rw [hlen1]; omega)
  obtain ⟨hstrt, hsrc, m2, hst2, hres, hl2, ho2⟩ := move_up hm1 (fun hm0 => hs (List.mem_of_mem_drop hm0))
  have eA : ((s.take i ++ r).length : Int) = (i : Int) + (r.length : Int) := by
    rw [List.length_append, hA]; omega
  have eAF : ((s.take i ++ r ++ (s.drop (i + r.length)).take (o.length - r.length)).length : Int) = (i : Int) + (o.length : Int) := by
    rw [List.length_append, List.length_append, hA, hF]; omega
  rw [eAF] at hstrt hsrc
  rw [eA] at hst2
  rw [List.length_drop] at hsrc
  refine ⟨m1, m2, hst1, ha1, ha2, hstrt, hsrc, hst2, hres ?_, hl2.trans hl1, fun b' hb' => by rw [ho2 b' hb', ho1 b' hb']⟩
  exact fun hm0 => (List.mem_append.1 hm0).elim (fun h => hs (List.mem_of_mem_take h)) hr

set_option linter.unusedVariables false in
/-- `replace_str` (util/econftool.c): no fault, returns its first argument, the string left there is `replaceSpec`, other blocks
    untouched -/
theorem replace_str_exec (m : Mem) (b0 b1 b2 : Nat) (s o r : List UInt8)
    (h0 : MemBytes m b0 (s ++ [0])) (h1 : MemBytes m b1 (o ++ [0])) (h2 : MemBytes m b2 (r ++ [0]))
    (hs : (0 : UInt8) ∉ s) (ho : (0 : UInt8) ∉ o) (hr : (0 : UInt8) ∉ r)
    (d01 : b0 ≠ b1) (d02 : b0 ≠ b2)
    (hsmall : (s.length : Int) + 1 < 18446744073709551616 ∧ (o.length : Int) < 18446744073709551616 ∧ (r.length : Int) < 18446744073709551616)
    (fuel : Nat) :
    ∃ m' loc', exec fuel LeafFns.replace_str.body { mem := m, loc := [.ptr b0 0, .ptr b1 0, .ptr b2 0, .undef, .undef, .undef] } =
        .ret (.ptr b0 0) { mem := m', loc := loc' } ∧
      m'.cstr b0 0 = .ok (replaceSpec s o r) ∧ m'.length = m.length ∧ ∀ b', b' ≠ b0 → m'[b']? = m[b']? := by
  have hstr0 := h0.cstr hs 0 (Nat.zero_le _)
  have hstr1 := h1.cstr ho 0 (Nat.zero_le _)
  have hstr2 := h2.cstr hr 0 (Nat.zero_le _)
  simp only [Int.natCast_zero, List.drop_zero] at hstr0 hstr1 hstr2
  have wo : wrapTo .u64 (o.length : Int) = o.length := wrapTo_u64_small _ (by omega) (by omega)
  have wr : wrapTo .u64 (r.length : Int) = r.length := wrapTo_u64_small _ (by omega) (by omega)
  have hpre : ∀ rest : Stmt, exec fuel
      (.seq (.expr (.assign (.var 4) (.call "strlen" (.cons (.load (.var 1) .ptr) .nil)) .u64))
        (.seq (.expr (.assign (.var 5) (.call "strlen" (.cons (.load (.var 2) .ptr) .nil)) .u64)) rest))
      { mem := m, loc := [.ptr b0 0, .ptr b1 0, .ptr b2 0, .undef, .undef, .undef] } =
      exec fuel rest { mem := m, loc := [.ptr b0 0, .ptr b1 0, .ptr b2 0, .undef, .int (o.length : Nat), .int (r.length : Nat)] } := by
    intro rest
    simp [mc_exec, mc_eval, builtin_strlen, hstr1, hstr2, convert, wo, wr]
  simp only [LeafFns.replace_str]
  rw [hpre]
  by_cases hlen : o.length < r.length
  · -- the replacement is longer: nothing happens
    refine ⟨m, [.ptr b0 0, .ptr b1 0, .ptr b2 0, .undef, .int (o.length : Nat), .int (r.length : Nat)], ?_, ?_, rfl, fun _ _ => rfl⟩
    · have : (o.length : Int) < (r.length : Int) := by omega
      simp [mc_exec, mc_eval, testOf, binop, cmpInt, boolVal, truth, this]
    · simp [replaceSpec, hlen, hstr0]
  · have hnlt : ¬ (o.length : Int) < (r.length : Int) := by omega
    cases hf : findSub o s 0 with
    | none =>
      refine ⟨m, [.ptr b0 0, .ptr b1 0, .ptr b2 0, .null, .int (o.length : Nat), .int (r.length : Nat)], ?_, ?_, rfl, fun _ _ => rfl⟩
      · simp [mc_exec, mc_eval, testOf, builtin_strstr, hstr0, hstr1, hf, binop, cmpInt, boolVal, truth, unop, convert, hnlt]
      · simp [replaceSpec, hlen, hf, hstr0]
    | some i =>
      obtain ⟨_, hbnd⟩ := findSub_bound o s 0 i hf
      simp only [Nat.sub_zero] at hbnd
      have wt : wrapTo .u64 (((s.length - (i + o.length) : Nat) : Int) + 1) = ((s.length - (i + o.length) : Nat) : Int) + 1 :=
        wrapTo_u64_small _ (by omega) (by omega)
      have hld : m.loadBytes b2 0 r.length = .ok r := by
        have := h2.loadBytes r.length 0 (by simp)
        simpa using this
      obtain ⟨m1, m2, hst1, ha1, ha2, hstrt, hsrc, hst2, hres, hl2, ho2⟩ := rs_mem h0 hs hr hbnd (by omega)
      refine ⟨m2, [.ptr b0 0, .ptr b1 0, .ptr b2 0, .ptr b0 (i : Nat), .int (o.length : Nat), .int (r.length : Nat)], ?_, ?_, hl2, ho2⟩
      · -- the test lets us pass, `p` points at the occurrence
        refine exec_seq_step (st' := { mem := m, loc := [.ptr b0 0, .ptr b1 0, .ptr b2 0, .ptr b0 (i : Nat), .int (o.length : Nat), .int (r.length : Nat)] }) ?_ ?_
        · simp [mc_exec, mc_eval, testOf, builtin_strstr, hstr0, hstr1, hf, binop, cmpInt, boolVal, truth, unop, convert, hnlt]
        -- memcpy(p, rep, rep_len)
        refine exec_seq_step (st' := { mem := m1, loc := [.ptr b0 0, .ptr b1 0, .ptr b2 0, .ptr b0 (i : Nat), .int (o.length : Nat), .int (r.length : Nat)] }) ?_ ?_
        · simp [mc_exec, mc_eval, builtin_memcpy, hld, hst1]
        -- memmove(p + rep_len, p + orig_len, strlen(p + orig_len) + 1)
        refine exec_seq_step (st' := { mem := m2, loc := [.ptr b0 0, .ptr b1 0, .ptr b2 0, .ptr b0 (i : Nat), .int (o.length : Nat), .int (r.length : Nat)] }) ?_ ?_
        · simp [mc_exec, mc_eval, builtin_memmove, builtin_strlen, binop, ha1, ha2, hstrt, cmpInt, arith, Ty.signed,
            convert, w64_one, wt, hsrc, hst2, Int.toNat_natCast_add_one]
        simp [mc_exec, mc_eval]
      · rw [hres]
        simp [replaceSpec, hlen, hf]

theorem replaceSpec_length (s o r : List UInt8) : (replaceSpec s o r).length ≤ s.length := by
  unfold replaceSpec
  split
  · exact Nat.le_refl _
  · split
    · exact Nat.le_refl _
    · rename_i i hf
      obtain ⟨_, hb⟩ := findSub_bound o s 0 i hf
      simp only [Nat.sub_zero] at hb
      simp only [List.length_append, List.length_take, List.length_drop]
      omega

/-- `replace_str` (util/econftool.c): for every source, search and replacement string the function runs without a fault – every
    access of `memcpy`, `memmove`, `strstr` and `strlen` stays inside the three strings –, returns its first argument, leaves every
    other block alone, and the string left in place is `replaceSpec`, which is never longer than the source. -/
theorem C_replace_str (m : Mem) (b0 b1 b2 : Nat) (s o r : List UInt8)
    (h0 : MemBytes m b0 (s ++ [0])) (h1 : MemBytes m b1 (o ++ [0])) (h2 : MemBytes m b2 (r ++ [0]))
    (hs : (0 : UInt8) ∉ s) (ho : (0 : UInt8) ∉ o) (hr : (0 : UInt8) ∉ r) (d01 : b0 ≠ b1) (d02 : b0 ≠ b2)
    (hsmall : (s.length : Int) + 1 < 18446744073709551616 ∧ (o.length : Int) < 18446744073709551616 ∧ (r.length : Int) < 18446744073709551616)
    (fuel : Nat) :
    ∃ m' loc' res, exec fuel LeafFns.replace_str.body { mem := m, loc := [.ptr b0 0, .ptr b1 0, .ptr b2 0, .undef, .undef, .undef] } =
        .ret (.ptr b0 0) { mem := m', loc := loc' } ∧
      m'.cstr b0 0 = .ok res ∧ res = replaceSpec s o r ∧ res.length ≤ s.length ∧ ∀ b', b' ≠ b0 → m'[b']? = m[b']? := by
  obtain ⟨m', loc', h, hc, _, hf⟩ := replace_str_exec m b0 b1 b2 s o r h0 h1 h2 hs ho hr d01 d02 hsmall fuel
  exact ⟨m', loc', _, h, hc, rfl, replaceSpec_length s o r, hf⟩

example : replaceSpec [97, 92, 116, 98] [92, 116] [9] = [97, 9, 98] := by decide

end Leaf
