import Econf.Props.LeafMerge
open MiniC Leaf LeafKf
namespace LeafKf

/-!
  `add_new_groups` of lib/mergefiles.c on the generated term: the loop over the override (`ag_round`, `ag_loop`), the final `realloc`
  (`ag_realloc_exec`), and `C_add_new_groups`: behind the entries already there stands the model's `addNewGroups`.
-/

/-- which entries `add_new_groups` copies -/
def agP (us : List Econf.Entry) (e : Econf.Entry) : Bool := e.group != Econf.NONE && !Econf.hasGroup us e.group

theorem agSel_model (us es : List Econf.Entry) : (selBy (agP us) es es.length).map Econf.cpyEntry = Econf.addNewGroups us es := by
  unfold Econf.addNewGroups
  rw [selBy_model]
  rfl

def agSrc : Expr := .sidx (.load (.slot (.load (.var 3) .ptr) 0) .ptr) (.load (.var 6) .u64) 7
def agCond : Expr := .un .lnot (.call "strcmp" (.cons (.load (.slot agSrc 0) .ptr) (.cons (.strlit [95, 110, 111, 110, 101, 95]) .nil))) .i32
def agAppend : Stmt := .seq (.inl (some (.var 7)) .ptr (.cons (.load (.var 0) .ptr) (.cons agSrc .nil)) 3 LeafFns.cpy_file_entry.body)
  (.expr (.call "copy_words" (.cons (.sidx (.load (.slot (.load (.var 1) .ptr) 0) .ptr) (.incdec (.var 5) true true .u64) 7)
    (.cons (.load (.var 7) .ptr) (.cons (.lit 7 .u64) .nil)))))
def agInner : Stmt := .seq (.inl (some (.var 9)) .bool (.cons (.load (.var 2) .ptr) (.cons (.load (.slot agSrc 0) .ptr) .nil)) 3 LeafFns.has_group.body)
  (.ite (.un .lnot (.load (.var 9) .bool) .i32)
    (.seq (.inl (some (.var 8)) .bool (.cons (.load (.var 3) .ptr) (.cons (.load (.var 6) .u64) .nil)) 3 LeafFns.first_definition.body)
      (.ite (.cast .i32 (.load (.var 8) .bool)) agAppend .skip)) .skip)
def agBody : Stmt := .seq (.ite agCond .cont .skip) agInner
def agTest : Expr := .bin .lt (.load (.var 6) .u64) (.load (.slot (.load (.var 3) .ptr) 1) .u64) .i32
def agLoop : Stmt := .for (some agTest) (some (.incdec (.var 6) true true .u64)) agBody
def agRealloc : Stmt := .ite (.bin .gt (.load (.var 5) .u64) (.cast .u64 (.lit 0 .i32)) .i32)
  (.expr (.assign (.slot (.load (.var 1) .ptr) 0) (.call "realloc_words" (.cons (.load (.slot (.load (.var 1) .ptr) 0) .ptr)
    (.cons (.bin .mul (.load (.var 5) .u64) (.lit 7 .u64) .u64) .nil))) .ptr)) .skip

theorem add_new_groups_shape : LeafFns.add_new_groups.body =
    .seq (.expr (.assign (.var 5) (.load (.var 4) .u64) .u64))
      (.seq (.ite (.land (.load (.var 2) .ptr) (.load (.var 3) .ptr))
          (.seq (.expr (.assign (.var 6) (.cast .u64 (.lit 0 .i32)) .u64)) (.seq agLoop agRealloc)) .skip)
        (.ret (some (.load (.var 5) .u64)))) := rfl

/-- `add_new_groups` without a base or without an override: the count handed in is returned, the array is not touched
    (not even cut to size) -/
theorem add_new_groups_null (fuel : Nat) (m : Mem) (a0 a1 a2 a3 : Val) (start : Nat) (hs : (start : Int) < 18446744073709551616)
    (h : a2 = .null ∨ (∃ b, a2 = .ptr b 0) ∧ a3 = .null) :
    exec fuel LeafFns.add_new_groups.body { mem := m, loc := [a0, a1, a2, a3, .int (start : Int), .undef, .undef, .undef, .undef, .undef] } =
      .ret (.int (start : Int)) { mem := m, loc := [a0, a1, a2, a3, .int (start : Int), .int (start : Int), .undef, .undef, .undef, .undef] } := by
  have wS : wrapTo .u64 (start : Int) = (start : Int) := wrapTo_u64_small _ (by omega) hs
  rw [add_new_groups_shape]
  rcases h with rfl | ⟨⟨b, rfl⟩, rfl⟩ <;>
    simp [mc_exec, mc_eval, testOf, convert, wS, truth, boolVal]

/-- the state of the loop of `add_new_groups` before round `i`: `start` entries were in the array before, `sel` have been added -/
structure AgInv (m0 : Mem) (bk bl0 fa cell bu be : Nat) (names0 : List (List UInt8)) (gl0len cap start : Nat) (ablk0 : Block)
    (sel : List Econf.Entry) (i : Nat) (st : St) : Prop where
  loc : ∃ v7 v8 v9, st.loc = [.ptr bk 0, .ptr cell 0, .ptr bu 0, .ptr be 0, .int (start : Int), .int ((start + sel.length : Nat) : Int), .int (i : Int), v7, v8, v9]
  agree : ∀ b, b < m0.length → b ∉ [bk, bl0, fa] → st.mem[b]? = m0[b]?
  grows : m0.length ≤ st.mem.length
  dest : ∃ bl' gl', GlMem st.mem bk bl' gl' ∧ (bl' = bl0 ∨ m0.length ≤ bl') ∧ (∀ kb blk, m0[bk]? = some kb → st.mem[bk]? = some blk → KfKeep kb blk) ∧ (gl' ≠ [] → bk ≠ bl') ∧
      (∀ x, x ∈ gl' → x.1 ≠ bk ∧ x.1 ≠ bl') ∧ gl'.length ≤ gl0len + sel.length ∧
      gl'.map (·.2) = (sel.map (·.group)).foldl Econf.addGroup names0 ∧
      ∀ j (h : j < sel.length), EntMem st.mem fa (7 * (start + j)) (Econf.cpyEntry (sel[j])) [bk, bl']
  arr : ∃ ablk, st.mem[fa]? = some ablk ∧ ablk.live = true ∧ ablk.writable = true ∧ ablk.cells = [] ∧ ablk.slots.length = 7 * cap ∧
      ∀ k, k < 7 * start → ablk.slots[k]? = ablk0.slots[k]?


theorem AgInv.toArr {m0 : Mem} {bk bl0 fa cell bu be : Nat} {names0 : List (List UInt8)} {gl0len cap start i : Nat} {ablk0 : Block} {sel : List Econf.Entry} {st : St}
    (h : AgInv m0 bk bl0 fa cell bu be names0 gl0len cap start ablk0 sel i st) :
    ArrSt m0 bk bl0 fa gl0len cap start ablk0 sel ((sel.map (·.group)).foldl Econf.addGroup names0) st.mem :=
  ⟨h.agree, h.grows, h.dest, h.arr⟩

/-- base and override readable and apart from destination and array, the cell `*fe` pointing to the array, room for the selected entries
    behind the `start` there, sizes that fit `size_t` and `int` (the facts of `ArrCtx`, listed here) -/
structure AgCtx (m0 : Mem) (bk bl0 fa cell bu bua be bea : Nat) (us es : List Econf.Entry) (gl0len cap start : Nat) : Prop where
  src : SrcMem m0 be bea es [bk, bl0, fa]
  usr : SrcMem m0 bu bua us [bk, bl0, fa]
  cellb : ∃ cblk, m0[cell]? = some cblk ∧ cblk.live = true ∧ cblk.slots[0]? = some (.ptr fa 0)
  cellav : cell ∉ [bk, bl0, fa]
  fa_lt : fa < m0.length
  bk_lt : bk < m0.length
  bl_lt : bl0 < m0.length
  fa_ne : fa ≠ bk ∧ fa ≠ bl0
  room : start + (selBy (agP us) es es.length).length ≤ cap
  small : (gl0len : Int) + es.length + 2 < 2147483648
  usmall : (us.length : Int) + 1 < 18446744073709551616
  ssmall : (start : Int) + es.length + 1 < 18446744073709551616
  csmall : (7 * cap : Int) < 18446744073709551616
  lines : ∀ e ∈ es, (e.line : Int) < 18446744073709551616

abbrev agLoc (bk cell bu be start cnt i : Nat) (v7 v8 v9 : Val) : List Val :=
  [.ptr bk 0, .ptr cell 0, .ptr bu 0, .ptr be 0, .int (start : Int), .int (cnt : Int), .int (i : Int), v7, v8, v9]


theorem AgInv.ofArr {m0 : Mem} {bk bl0 fa cell bu be : Nat} {names0 : List (List UInt8)} {gl0len cap start i : Nat} {ablk0 : Block} {sel : List Econf.Entry}
    {mem : Mem} (v7 v8 v9 : Val) (h : ArrSt m0 bk bl0 fa gl0len cap start ablk0 sel ((sel.map (·.group)).foldl Econf.addGroup names0) mem) :
    AgInv m0 bk bl0 fa cell bu be names0 gl0len cap start ablk0 sel i { mem := mem, loc := agLoc bk cell bu be start (start + sel.length) i v7 v8 v9 } :=
  ⟨⟨v7, v8, v9, rfl⟩, h.agree, h.grows, h.dest, h.arr⟩

/-- the body of the loop on entry `i`: the first definition of a key in a group the base does not have is appended, any other entry
    is passed over (a group-less one by `continue`); the literal of the comparison stays behind the memory -/
theorem ag_body (fuel : Nat) (mm : Mem) (bk cell bu bua be bea : Nat) (us es : List Econf.Entry) (av : List Nat) (start cnt i : Nat) (v7 v8 v9 : Val)
    (hS : SrcMem mm be bea es av) (hU : SrcMem mm bu bua us av) (hi : i < es.length)
    (hsmall : (es.length : Int) + 1 < 18446744073709551616) (husmall : (us.length : Int) + 1 < 18446744073709551616)
    (hf : es.length < fuel) (hfu : us.length < fuel) :
    if (agP us es[i] && (firstIdx (entsOf es) (es[i]).group (es[i]).key == i)) = true then
      exec fuel agBody { mem := mm, loc := agLoc bk cell bu be start cnt i v7 v8 v9 } =
        exec fuel agAppend { mem := mm ++ [noneLit], loc := agLoc bk cell bu be start cnt i v7 (.int 1) (.int 0) }
    else ∃ v8' v9', exec fuel agBody { mem := mm, loc := agLoc bk cell bu be start cnt i v7 v8 v9 } =
          .normal { mem := mm ++ [noneLit], loc := agLoc bk cell bu be start cnt i v7 v8' v9' } ∨
        exec fuel agBody { mem := mm, loc := agLoc bk cell bu be start cnt i v7 v8 v9 } =
          .cont { mem := mm ++ [noneLit], loc := agLoc bk cell bu be start cnt i v7 v8' v9' } := by
  have hcond : testOf (some agCond) { mem := mm, loc := agLoc bk cell bu be start cnt i v7 v8 v9 } = _ :=
    ef_none 3 6 mm _ be bea es av i hS hi rfl rfl
  unfold agBody
  by_cases hg : (es[i]).group = Econf.NONE
  · rw [if_neg (by simp [agP, hg])]
    refine ⟨v8, v9, Or.inr (exec_seq_cont ?_)⟩
    rw [exec_ite_true (by simpa [hg] using hcond)]
    simp [mc_exec]
  · have hcF : exec fuel (.ite agCond .cont .skip) { mem := mm, loc := agLoc bk cell bu be start cnt i v7 v8 v9 } =
        .normal { mem := mm ++ [noneLit], loc := agLoc bk cell bu be start cnt i v7 v8 v9 } := by
      rw [exec_ite_false (by simpa [hg] using hcond)]
      simp [mc_exec]
    have hSM : SrcMem (mm ++ [noneLit]) be bea es av := hS.mono (fun b hb _ => append_get hb)
    have hUM : SrcMem (mm ++ [noneLit]) bu bua us av := hU.mono (fun b hb _ => append_get hb)
    obtain ⟨bg, hgrp, hgstr⟩ := ef_group 3 6 (mm ++ [noneLit]) (agLoc bk cell bu be start cnt i v7 v8 v9) be bea es av i hSM hi rfl rfl
    have hhg := call_has_group 2 9 _ fuel _ _ _ bu bua bg us _ hUM.toKf rfl hgrp hgstr (by simp) husmall hfu
    unfold agInner
    rw [show agSrc = efAt 3 6 from rfl, exec_seq_normal hcF, exec_seq_normal hhg]
    cases hhas : Econf.hasGroup us (es[i]).group with
    | true =>
      rw [if_neg (by simp [agP, hhas])]
      refine ⟨v8, .int 1, Or.inl ?_⟩
      rw [exec_ite_false (test_not_flag 9 _ _ 1 rfl (Or.inr rfl))]
      simp [mc_exec]
    | false =>
      have hfd := ef_first_definition 3 6 8 fuel (mm ++ [noneLit]) (agLoc bk cell bu be start cnt i v7 v8 (.int 0)) be bea es av i hSM hi rfl rfl (by simp) hsmall hf
      rw [exec_ite_true (test_not_flag 9 _ _ 0 rfl (Or.inl rfl))]
      by_cases hfirst : firstIdx (entsOf es) (es[i]).group (es[i]).key = i
      · simp only [hfirst, if_true] at hfd
        rw [if_pos (by simp [agP, hg, hhas, hfirst])]
        exact (exec_seq_normal hfd).trans (exec_ite_true (test_flag 8 _ _ 1 rfl (Or.inr rfl)))
      · simp only [hfirst, if_false] at hfd
        rw [if_neg (by simp [hfirst])]
        refine ⟨.int 0, .int 0, Or.inl ?_⟩
        exact (exec_seq_normal hfd).trans ((exec_ite_false (test_flag 8 _ _ 0 rfl (Or.inl rfl))).trans (exec_skip _ _))

/-- one round of `for (i = 0; i < ef->length; i++)`: entry `i` is appended if it is the first definition of a key in a group the base lacks -/
theorem ag_round {m0 : Mem} {bk bl0 fa cell bu bua be bea : Nat} {us es : List Econf.Entry} {names0 : List (List UInt8)} {gl0len cap start : Nat} {ablk0 : Block}
    (C : AgCtx m0 bk bl0 fa cell bu bua be bea us es gl0len cap start) (fuel : Nat) (hf : gl0len + es.length + us.length + 2 < fuel)
    (i : Nat) (hi : i < es.length) (st : St) (h : AgInv m0 bk bl0 fa cell bu be names0 gl0len cap start ablk0 (selBy (agP us) es i) i st) :
    ∃ T Q st', testOf (some agTest) st = .ok (true, T) ∧ (exec fuel agBody T = .normal Q ∨ exec fuel agBody T = .cont Q) ∧
      stepOf (some (.incdec (.var 6) true true .u64)) Q = .ok st' ∧
      AgInv m0 bk bl0 fa cell bu be names0 gl0len cap start ablk0 (selBy (agP us) es (i + 1)) (i + 1) st' := by
  obtain ⟨v7, v8, v9, hloc⟩ := h.loc
  obtain ⟨mem, loc⟩ := st
  simp only at hloc; subst hloc
  have hcnt : (selBy (agP us) es i).length ≤ i := selBy_length_le _ es i
  -- the sizes in play fit `size_t` and `int`, and the fuel suffices for the calls
  obtain ⟨he64, hi64, hc64, hg32, hfe, hfu, hfg⟩ : (es.length : Int) + 1 < 18446744073709551616 ∧ (i : Int) + 1 < 18446744073709551616 ∧
      ((start + (selBy (agP us) es i).length : Nat) : Int) + 1 < 18446744073709551616 ∧
      (gl0len : Int) + (selBy (agP us) es i).length + 2 < 2147483648 ∧ es.length < fuel ∧ us.length < fuel ∧
      gl0len + (selBy (agP us) es i).length + 1 < fuel := by
    have := C.small
    have := C.ssmall
    omega
  have hS : SrcMem mem be bea es [bk, bl0, fa] := C.src.mono h.agree
  have htest : testOf (some agTest) { mem := mem, loc := agLoc bk cell bu be start (start + (selBy (agP us) es i).length) i v7 v8 v9 } = _ :=
    ef_test 3 6 mem _ be bea es _ i hS rfl rfl
  simp only [hi, decide_true] at htest
  have hbody := ag_body fuel mem bk cell bu bua be bea us es _ start (start + (selBy (agP us) es i).length) i v7 v8 v9 hS (C.usr.mono h.agree) hi
    he64 C.usmall hfe hfu
  have hstep : ∀ mm cnt v7 v8 v9, stepOf (some (.incdec (.var 6) true true .u64)) { mem := mm, loc := agLoc bk cell bu be start cnt i v7 v8 v9 } =
      .ok { mem := mm, loc := agLoc bk cell bu be start cnt (i + 1) v7 v8 v9 } := fun mm cnt v7 v8 v9 =>
    stepOf_some _ _ _ _ (incdec_u64_eval 6 mm _ i rfl hi64)
  have hA := h.toArr.frame (mem ++ [noneLit]) (fun b hb => append_get hb) (by simp) C.fa_lt C.bk_lt
  have hmono := selBy_length_mono (agP us) es (i := i + 1) (n := es.length) hi
  rw [selBy_succ _ es i hi] at hmono ⊢
  by_cases hsel : (agP us es[i] && (firstIdx (entsOf es) (es[i]).group (es[i]).key == i)) = true
  · rw [if_pos hsel] at hbody hmono ⊢
    have hroom : start + (selBy (agP us) es i).length < cap := by
      have := C.room
      rw [List.length_append, List.length_singleton] at hmono
      omega
    have hSM : SrcMem (mem ++ [noneLit]) be bea es [bk, bl0, fa] := hS.mono (fun b hb _ => append_get hb)
    obtain ⟨m', hex, hA', _⟩ := hA.append C.cellb C.cellav C.fa_lt C.bk_lt C.fa_ne bea (7 * i) es[i] (C.src.ents i hi)
      (agLoc bk cell bu be start (start + (selBy (agP us) es i).length) i v7 (.int 1) (.int 0))
      (agLoc bk cell bu be start (start + (selBy (agP us) es i).length + 1) i (.ptr (mem ++ [noneLit]).length 0) (.int 1) (.int 0))
      agSrc (.incdec (.var 5) true true .u64) 7 hroom hg32 (C.lines _ (List.getElem_mem hi)) fuel hfg rfl rfl (by simp) (by decide)
      (ef_src 3 6 _ _ be bea es _ i hSM (Nat.le_of_lt hi) rfl rfl)
      (fun mm => incdec_u64_eval 5 mm _ (start + (selBy (agP us) es i).length) rfl hc64) rfl
    have hn : Econf.addGroup (((selBy (agP us) es i).map (·.group)).foldl Econf.addGroup names0) (es[i]).group =
        (((selBy (agP us) es i ++ [es[i]]).map (·.group)).foldl Econf.addGroup names0) := by
      simp [List.map_append, List.foldl_append]
    rw [hn] at hA'
    refine ⟨_, _, _, htest, Or.inl (hbody.trans hex), hstep _ _ _ _ _, ?_⟩
    have := AgInv.ofArr (cell := cell) (bu := bu) (be := be) (i := i + 1) (.ptr (mem ++ [noneLit]).length 0) (.int 1) (.int 0) hA'
    rwa [List.length_append, List.length_singleton, ← Nat.add_assoc] at this
  · rw [if_neg hsel] at hbody ⊢
    rw [List.append_nil]
    obtain ⟨v8', v9', hb⟩ := hbody
    exact ⟨_, _, _, htest, hb, hstep _ _ _ _ _, AgInv.ofArr v7 v8' v9' hA⟩

/-- the whole loop: the entries `selBy (agP us) es` are behind the array's `start` -/
theorem ag_loop {m0 : Mem} {bk bl0 fa cell bu bua be bea : Nat} {us es : List Econf.Entry} {names0 : List (List UInt8)} {gl0len cap start : Nat} {ablk0 : Block}
    (C : AgCtx m0 bk bl0 fa cell bu bua be bea us es gl0len cap start) (fuel : Nat) (hf : gl0len + es.length + us.length + 2 < fuel)
    (st : St) (h : AgInv m0 bk bl0 fa cell bu be names0 gl0len cap start ablk0 (selBy (agP us) es 0) 0 st) :
    ∃ R, exec fuel agLoop st = .normal R ∧ AgInv m0 bk bl0 fa cell bu be names0 gl0len cap start ablk0 (selBy (agP us) es es.length) es.length R := by
  unfold agLoop
  rw [exec_for]
  refine loop_inv _ _ _ _ es.length (fun i st => AgInv m0 bk bl0 fa cell bu be names0 gl0len cap start ablk0 (selBy (agP us) es i) i st)
    (fun i st hi hinv => ag_round C fuel hf i hi st hinv) ?_ st fuel h (by omega)
  intro st hinv
  obtain ⟨v7, v8, v9, hloc⟩ := hinv.loc
  obtain ⟨mem, loc⟩ := st
  simp only at hloc; subst hloc
  have htest : testOf (some agTest) { mem := mem, loc := agLoc bk cell bu be start (start + (selBy (agP us) es es.length).length) es.length v7 v8 v9 } = _ :=
    ef_test 3 6 mem _ be bea es _ es.length (C.src.mono hinv.agree) rfl rfl
  simp only [Nat.lt_irrefl, decide_false] at htest
  exact ⟨_, htest, hinv⟩

/-- the function is the loop, then the cut to size, then `return merge_length` -/
theorem add_new_groups_run (fuel : Nat) (m : Mem) (bk cell bu be start n : Nat) (R Q : St) (hs : (start : Int) < 18446744073709551616)
    (hloop : exec fuel agLoop { mem := m, loc := agLoc bk cell bu be start start 0 .undef .undef .undef } = .normal R)
    (hre : exec fuel agRealloc R = .normal Q) (hQ : Q.loc[5]? = some (.int (n : Int))) :
    exec fuel LeafFns.add_new_groups.body
        { mem := m, loc := [.ptr bk 0, .ptr cell 0, .ptr bu 0, .ptr be 0, .int (start : Int), .undef, .undef, .undef, .undef, .undef] } =
      .ret (.int (n : Int)) Q := by
  have wS : wrapTo .u64 (start : Int) = (start : Int) := wrapTo_u64_small _ (by omega) hs
  have hinit : exec fuel (.expr (.assign (.var 5) (.load (.var 4) .u64) .u64))
      { mem := m, loc := [.ptr bk 0, .ptr cell 0, .ptr bu 0, .ptr be 0, .int (start : Int), .undef, .undef, .undef, .undef, .undef] } =
      .normal { mem := m, loc := [.ptr bk 0, .ptr cell 0, .ptr bu 0, .ptr be 0, .int (start : Int), .int (start : Int), .undef, .undef, .undef, .undef] } := by
    simp [mc_exec, mc_eval, convert, wS]
  have htl : testOf (some (.land (.load (.var 2) .ptr) (.load (.var 3) .ptr)))
      { mem := m, loc := [.ptr bk 0, .ptr cell 0, .ptr bu 0, .ptr be 0, .int (start : Int), .int (start : Int), .undef, .undef, .undef, .undef] } =
      .ok (true, { mem := m, loc := [.ptr bk 0, .ptr cell 0, .ptr bu 0, .ptr be 0, .int (start : Int), .int (start : Int), .undef, .undef, .undef, .undef] }) := by
    simp [mc_eval, testOf, truth, boolVal]
  have hi6 : exec fuel (.expr (.assign (.var 6) (.cast .u64 (.lit 0 .i32)) .u64))
      { mem := m, loc := [.ptr bk 0, .ptr cell 0, .ptr bu 0, .ptr be 0, .int (start : Int), .int (start : Int), .undef, .undef, .undef, .undef] } =
      .normal { mem := m, loc := agLoc bk cell bu be start start 0 .undef .undef .undef } :=
    u64_zero fuel 6 _ _ (by simp)
  have hret : exec fuel (.ret (some (.load (.var 5) .u64))) Q = .ret (.int (n : Int)) Q := by
    simp [mc_exec, evalE_var (ty := .u64) (st := Q) hQ (by simp)]
  rw [add_new_groups_shape, exec_seq_normal hinit, exec_seq_normal (st' := Q) (by rw [exec_ite_true htl, exec_seq_normal hi6, exec_seq_normal hloop, hre]), hret]

/-- the size handed to `realloc` fits `size_t` -/
theorem wrap_words {n cap : Nat} (hle : n ≤ cap) (hcs : (7 * cap : Int) < 18446744073709551616) :
    wrapTo .u64 ((n : Int) * 7) = 7 * (n : Int) := by
  rw [wrapTo_u64_small _ (by omega) (by omega)]; omega

/-- `if (merge_length > 0) *fe = realloc(*fe, merge_length * sizeof(struct file_entry))`: the first `7 n` words of the array move to a new
    block behind the memory, the old block dies, the cell points to the new one -/
theorem ag_realloc_exec (fuel : Nat) (mm : Mem) (loc : List Val) (cell fa n cap : Nat) (cblk ablk : Block)
    (hl1 : loc[1]? = some (.ptr cell 0)) (hl5 : loc[5]? = some (.int (n : Int)))
    (hc : mm[cell]? = some cblk) (c2 : cblk.live = true) (cw : cblk.writable = true) (c3 : cblk.slots[0]? = some (.ptr fa 0)) (hne : cell ≠ fa)
    (ha : mm[fa]? = some ablk) (a2 : ablk.live = true) (a5 : ablk.slots.length = 7 * cap) (hn : 0 < n) (hle : n ≤ cap)
    (hcs : (7 * cap : Int) < 18446744073709551616) :
    ∃ mR, exec fuel agRealloc { mem := mm, loc := loc } = .normal { mem := mR, loc := loc } ∧ mR.length = mm.length + 1 ∧
      (∀ b, b < mm.length → b ≠ fa → b ≠ cell → mR[b]? = mm[b]?) ∧
      mR[mm.length]? = some { cells := [], slots := ablk.slots.take (7 * n) } ∧
      ∃ cblk', mR[cell]? = some cblk' ∧ cblk'.live = true ∧ cblk'.slots[0]? = some (.ptr mm.length 0) := by
  have w0 : wrapTo .u64 0 = 0 := wrapTo_u64_small 0 (by decide) (by decide)
  have htest : testOf (some (.bin .gt (.load (.var 5) .u64) (.cast .u64 (.lit 0 .i32)) .i32)) { mem := mm, loc := loc } =
      .ok (true, { mem := mm, loc := loc }) := by
    have : n ≠ 0 := by omega
    simp [mc_eval, testOf, convert, w0, binop, cmpInt, boolVal, truth, this, hl5]
  have hlc : mm.loadSlot cell 0 = .ok (.ptr fa 0) := by simpa using loadSlot_of (i := 0) hc c2 c3 (by simp)
  have hwm := wrap_words hle hcs
  have hrw := realloc_words_spec mm fa ablk (7 * n) ha a2
  have htake : (ablk.slots.take (7 * n)).length = 7 * n := by
    rw [List.length_take, a5]; exact Nat.min_eq_left (Nat.mul_le_mul_left 7 hle)
  rw [htake, Nat.sub_self] at hrw
  simp only [List.replicate_zero, List.append_nil] at hrw
  have hargs : evalArgs (.cons (.load (.slot (.load (.var 1) .ptr) 0) .ptr) (.cons (.bin .mul (.load (.var 5) .u64) (.lit 7 .u64) .u64) .nil))
      { mem := mm, loc := loc } = .ok ([.ptr fa 0, .int (7 * (n : Int))], { mem := mm, loc := loc }) := by
    simp [mc_eval, hl1, hlc, hl5, binop, cmpInt, arith_u64, hwm]
  have hclt : cell < mm.length := (List.getElem?_eq_some_iff.1 hc).1
  have hc1 : (mm.set fa { ablk with live := false } ++ [({ cells := [], slots := ablk.slots.take (7 * n) } : Block)])[cell]? = some cblk := by
    rw [List.getElem?_append_left (by simpa using hclt), set_other hne]; exact hc
  have hsl : 0 < cblk.slots.length := by
    cases hq : cblk.slots with
    | nil => rw [hq] at c3; simp at c3
    | cons _ _ => simp
  have hst := storeSlot_of (i := 0) (.ptr mm.length 0) hc1 c2 cw hsl
  have hlen1 : (mm.set fa { ablk with live := false } ++ [({ cells := [], slots := ablk.slots.take (7 * n) } : Block)]).length = mm.length + 1 := by simp
  refine ⟨(mm.set fa { ablk with live := false } ++ [({ cells := [], slots := ablk.slots.take (7 * n) } : Block)]).set cell
    { cblk with slots := cblk.slots.set 0 (.ptr mm.length 0) }, ?_, by rw [List.length_set, hlen1], fun b hb h1 h2 => ?_, ?_, ?_⟩
  · unfold agRealloc
    rw [exec_ite_true htest]
    generalize (Args.cons (.load (.slot (.load (.var 1) .ptr) 0) .ptr) (.cons (.bin .mul (.load (.var 5) .u64) (.lit 7 .u64) .u64) .nil)) = A at hargs ⊢
    have hrw' : builtin "realloc_words" [.ptr fa 0, .int (7 * (n : Int))] mm =
        .ok (.ptr mm.length 0, mm.set fa { ablk with live := false } ++ [({ cells := [], slots := ablk.slots.take (7 * n) } : Block)]) := by
      simpa using hrw
    simp only [Int.natCast_zero] at hst
    simp [mc_exec, mc_eval, hl1, hargs, hrw', convert, hst]
  · rw [set_other h2, List.getElem?_append_left (by simpa using hb), set_other h1]
  · rw [set_other (by omega)]
    have : (mm.set fa { ablk with live := false }).length = mm.length := by simp
    rw [← this, List.getElem?_concat_length]
  · exact ⟨_, List.getElem?_set_self (by rw [hlen1]; omega), c2, by simp [hsl]⟩

/-- `add_new_groups` on the generated term, both objects present: the entries of groups the base does not have are appended behind the
    `start` entries already in the array, the array is then cut to size (`realloc`: it moves to a new block, the cell `*fe` points there),
    the number of entries is returned -/
theorem add_new_groups_exec (m : Mem) (bk bl0 fa cell bu bua be bea : Nat) (us es : List Econf.Entry) (gl0 : List (Nat × List UInt8)) (cap start : Nat)
    (C : AgCtx m bk bl0 fa cell bu bua be bea us es gl0.length cap start)
    (hcw : ∀ cblk, m[cell]? = some cblk → cblk.writable = true ∧ cblk.cells = [])
    (hG : GlMem m bk bl0 gl0) (hkw : ∀ blk, m[bk]? = some blk → blk.writable = true) (hne : gl0 ≠ [] → bk ≠ bl0) (hd : ∀ x, x ∈ gl0 → x.1 ≠ bk ∧ x.1 ≠ bl0)
    (ablk0 : Block) (ha1 : m[fa]? = some ablk0) (ha2 : ablk0.live = true) (ha3 : ablk0.writable = true) (ha4 : ablk0.cells = []) (ha5 : ablk0.slots.length = 7 * cap)
    (fuel : Nat) (hf : gl0.length + es.length + us.length + 2 < fuel) :
    ∃ m' loc' bl' gl' fa', exec fuel LeafFns.add_new_groups.body
        { mem := m, loc := [.ptr bk 0, .ptr cell 0, .ptr bu 0, .ptr be 0, .int (start : Int), .undef, .undef, .undef, .undef, .undef] } =
        .ret (.int ((start + (selBy (agP us) es es.length).length : Nat) : Int)) { mem := m', loc := loc' } ∧
      GlMem m' bk bl' gl' ∧
      gl'.map (·.2) = ((selBy (agP us) es es.length).map (·.group)).foldl Econf.addGroup (gl0.map (·.2)) ∧
      (∃ cblk', m'[cell]? = some cblk' ∧ cblk'.live = true ∧ cblk'.slots[0]? = some (.ptr fa' 0)) ∧
      (∃ ablk', m'[fa']? = some ablk' ∧ ablk'.live = true ∧ ∀ k, k < 7 * start → ablk'.slots[k]? = ablk0.slots[k]?) ∧
      (∀ j (h : j < (selBy (agP us) es es.length).length),
        EntMem m' fa' (7 * (start + j)) (Econf.cpyEntry ((selBy (agP us) es es.length)[j])) [bk, bl']) ∧
      (∀ b, b < m.length → b ∉ [bk, bl0, fa, cell] → m'[b]? = m[b]?) ∧ m.length ≤ m'.length ∧
      (bl' = bl0 ∨ m.length ≤ bl') ∧ fa' ≠ bk ∧ fa' ≠ bl' ∧
      (∀ kb blk, m[bk]? = some kb → m'[bk]? = some blk → KfKeep kb blk) ∧
      (gl' ≠ [] → bk ≠ bl') ∧ (∀ x, x ∈ gl' → x.1 ≠ bk ∧ x.1 ≠ bl') := by
  have hs64 : (start : Int) < 18446744073709551616 := by have := C.ssmall; omega
  have hroom := C.room
  have hfalt := C.fa_lt
  have hbklt := C.bk_lt
  have hsel0 : selBy (agP us) es 0 = [] := by simp [selBy]
  have hinv0 : AgInv m bk bl0 fa cell bu be (gl0.map (·.2)) gl0.length cap start ablk0 (selBy (agP us) es 0) 0
      { mem := m, loc := agLoc bk cell bu be start start 0 .undef .undef .undef } :=
    hsel0 ▸ AgInv.ofArr .undef .undef .undef (ArrSt.init start hG hkw hne hd ha1 ha2 ha3 ha4 ha5)
  obtain ⟨R, hloop, hinvR⟩ := ag_loop C fuel hf _ hinv0
  obtain ⟨v7, v8, v9, hlocR⟩ := hinvR.loc
  obtain ⟨memR, locR⟩ := R
  simp only at hlocR; subst hlocR
  obtain ⟨bl', gl', d1, d2, d3, d4, d5, d6, d7, d8⟩ := hinvR.dest
  obtain ⟨ablk, a1, a2, a3, a4, a5, a6⟩ := hinvR.arr
  have hagree := hinvR.agree
  have hgrows : m.length ≤ memR.length := hinvR.grows
  obtain ⟨cblk, c1, c2, c3⟩ := C.cellb
  obtain ⟨cw1, cw2⟩ := hcw cblk c1
  have hclt : cell < m.length := (List.getElem?_eq_some_iff.1 c1).1
  have hcR : memR[cell]? = some cblk := by rw [hagree cell hclt C.cellav]; exact c1
  have hcav := C.cellav
  simp only [List.mem_cons, List.not_mem_nil, or_false, not_or] at hcav
  have hbl'fa : bl' ≠ fa := Ne.symm (ne_of_same_or_new d2 hfalt C.fa_ne.2)
  have hagree4 : ∀ b, b < m.length → b ∉ [bk, bl0, fa, cell] → memR[b]? = m[b]? := fun b hb hav =>
    hagree b hb (by simp only [List.mem_cons, List.not_mem_nil, or_false, not_or] at hav ⊢; exact ⟨hav.1, hav.2.1, hav.2.2.1⟩)
  by_cases hcnt : start + (selBy (agP us) es es.length).length = 0
  · -- nothing in the array: it stays where it is
    have hre : exec fuel agRealloc { mem := memR, loc := agLoc bk cell bu be start (start + (selBy (agP us) es es.length).length) es.length v7 v8 v9 } =
        .normal { mem := memR, loc := agLoc bk cell bu be start (start + (selBy (agP us) es es.length).length) es.length v7 v8 v9 } := by
      have w0 : wrapTo .u64 0 = 0 := wrapTo_u64_small 0 (by decide) (by decide)
      unfold agRealloc
      rw [exec_ite_false (st' := { mem := memR, loc := agLoc bk cell bu be start (start + (selBy (agP us) es es.length).length) es.length v7 v8 v9 })
        (by simp [mc_eval, testOf, convert, w0, binop, cmpInt, boolVal, truth, hcnt])]
      simp [mc_exec]
    exact ⟨memR, _, bl', gl', fa, add_new_groups_run fuel m bk cell bu be start _ _ _ hs64 hloop hre rfl, d1, d7, ⟨cblk, hcR, c2, c3⟩,
      ⟨ablk, a1, a2, a6⟩, d8, hagree4, hgrows, d2, C.fa_ne.1, Ne.symm hbl'fa, d3, d4, d5⟩
  · -- the array is cut to its final size: a new block, the cell points to it
    obtain ⟨mR, hre, hlenR, hget, hnew, hcell'⟩ := ag_realloc_exec fuel memR
      (agLoc bk cell bu be start (start + (selBy (agP us) es es.length).length) es.length v7 v8 v9) cell fa
      (start + (selBy (agP us) es es.length).length) cap cblk ablk rfl rfl hcR c2 cw1 c3 hcav.2.2 a1 a2 a5 (Nat.pos_of_ne_zero hcnt) hroom C.csmall
    have hbkR : bk < memR.length := Nat.lt_of_lt_of_le hbklt hgrows
    have hblR : bl' < memR.length := d1.bl_lt
    have hbl'cell : bl' ≠ cell := Ne.symm (ne_of_same_or_new d2 hclt hcav.2.1)
    -- the array and the cell hold no strings, so every string of the old memory is where it was
    have hstr : ∀ b str, memR.cstr b 0 = .ok str → mR[b]? = memR[b]? := fun b str hc =>
      hget b (cstr_lt hc) (fun hh => no_cstr a1 a4 str (hh ▸ hc)) (fun hh => no_cstr hcR cw2 str (hh ▸ hc))
    have hbk' : mR[bk]? = memR[bk]? := hget bk hbkR (Ne.symm C.fa_ne.1) (Ne.symm hcav.1)
    have hslots : ∀ k, k < 7 * (start + (selBy (agP us) es es.length).length) →
        (ablk.slots.take (7 * (start + (selBy (agP us) es es.length).length)))[k]? = ablk.slots[k]? := fun k hk => List.getElem?_take_of_lt hk
    refine ⟨mR, _, bl', gl', memR.length, add_new_groups_run fuel m bk cell bu be start _ _ _ hs64 hloop hre rfl,
      d1.mono_of hbk' (hget bl' hblR hbl'fa hbl'cell) (fun b str hc _ => hstr b str hc), d7, hcell',
      ⟨_, hnew, rfl, fun k hk => (hslots k (Nat.lt_of_lt_of_le hk (Nat.mul_le_mul_left 7 (Nat.le_add_right _ _)))).trans (a6 k hk)⟩,
      fun j hj => ?_, fun b hb hav => ?_, by rw [hlenR]; exact Nat.le_succ_of_le hgrows, d2, Nat.ne_of_gt hbkR, Nat.ne_of_gt hblR,
      fun kb blk hk hb => d3 kb blk hk (by rw [← hbk']; exact hb), d4, d5⟩
    · refine (d8 j hj).reblock a1 hnew rfl (fun k hk => hslots _ (by omega)) (fun b str hc _ => hstr b str hc) (fun b _ hb => hb) ?_
      simp only [List.mem_cons, List.not_mem_nil, or_false, not_or]
      exact ⟨Nat.ne_of_gt hbkR, Nat.ne_of_gt hblR⟩
    · have hav' := hav
      simp only [List.mem_cons, List.not_mem_nil, or_false, not_or] at hav'
      rw [hget b (Nat.lt_of_lt_of_le hb hgrows) hav'.2.2.1 hav'.2.2.2]
      exact hagree4 b hb hav

/-- `add_new_groups`, generated term against the model: behind the `start` entries already in the array stand exactly the model's
    `addNewGroups`, their number is added to the count returned, the destination's group list has got their groups in order, and the rest
    of the caller's memory is unchanged (the array itself has moved: `*fe` points to the block cut to size) -/
theorem C_add_new_groups (m : Mem) (bk bl0 fa cell bu bua be bea : Nat) (us es : List Econf.Entry) (gl0 : List (Nat × List UInt8)) (cap start : Nat)
    (C : AgCtx m bk bl0 fa cell bu bua be bea us es gl0.length cap start)
    (hcw : ∀ cblk, m[cell]? = some cblk → cblk.writable = true ∧ cblk.cells = [])
    (hG : GlMem m bk bl0 gl0) (hkw : ∀ blk, m[bk]? = some blk → blk.writable = true) (hne : gl0 ≠ [] → bk ≠ bl0) (hd : ∀ x, x ∈ gl0 → x.1 ≠ bk ∧ x.1 ≠ bl0)
    (ablk0 : Block) (ha1 : m[fa]? = some ablk0) (ha2 : ablk0.live = true) (ha3 : ablk0.writable = true) (ha4 : ablk0.cells = []) (ha5 : ablk0.slots.length = 7 * cap)
    (fuel : Nat) (hf : gl0.length + es.length + us.length + 2 < fuel) :
    ∃ m' loc' bl' gl' fa', exec fuel LeafFns.add_new_groups.body
        { mem := m, loc := [.ptr bk 0, .ptr cell 0, .ptr bu 0, .ptr be 0, .int (start : Int), .undef, .undef, .undef, .undef, .undef] } =
        .ret (.int ((start + (Econf.addNewGroups us es).length : Nat) : Int)) { mem := m', loc := loc' } ∧
      GlMem m' bk bl' gl' ∧
      gl'.map (·.2) = ((Econf.addNewGroups us es).map (·.group)).foldl Econf.addGroup (gl0.map (·.2)) ∧
      (∃ cblk', m'[cell]? = some cblk' ∧ cblk'.live = true ∧ cblk'.slots[0]? = some (.ptr fa' 0)) ∧
      (∃ ablk', m'[fa']? = some ablk' ∧ ablk'.live = true ∧ ∀ k, k < 7 * start → ablk'.slots[k]? = ablk0.slots[k]?) ∧
      (∀ j (h : j < (Econf.addNewGroups us es).length), EntMem m' fa' (7 * (start + j)) ((Econf.addNewGroups us es)[j]) [bk, bl']) ∧
      (∀ b, b < m.length → b ∉ [bk, bl0, fa, cell] → m'[b]? = m[b]?) ∧ m.length ≤ m'.length ∧
      (bl' = bl0 ∨ m.length ≤ bl') ∧ fa' ≠ bk ∧ fa' ≠ bl' ∧
      (∀ kb blk, m[bk]? = some kb → m'[bk]? = some blk → KfKeep kb blk) ∧
      (gl' ≠ [] → bk ≠ bl') ∧ (∀ x, x ∈ gl' → x.1 ≠ bk ∧ x.1 ≠ bl') := by
  obtain ⟨m', loc', bl', gl', fa', hex, hG', hn, hc, ha, hE, hfr, hlen', hextra⟩ :=
    add_new_groups_exec m bk bl0 fa cell bu bua be bea us es gl0 cap start C hcw hG hkw hne hd ablk0 ha1 ha2 ha3 ha4 ha5 fuel hf
  have hm := agSel_model us es
  have hlen : (Econf.addNewGroups us es).length = (selBy (agP us) es es.length).length := by rw [← hm]; simp
  have hgrp : (Econf.addNewGroups us es).map (·.group) = (selBy (agP us) es es.length).map (·.group) := by
    rw [← hm, List.map_map]
    apply List.map_congr_left
    intro e _
    simp [Econf.cpyEntry]
  refine ⟨m', loc', bl', gl', fa', by rw [hlen]; exact hex, hG', by rw [hgrp]; exact hn, hc, ha, ?_, hfr, hlen', hextra⟩
  intro j hj
  have hj' : j < (selBy (agP us) es es.length).length := by omega
  have : (Econf.addNewGroups us es)[j] = Econf.cpyEntry ((selBy (agP us) es es.length)[j]) := by simp [← hm]
  rw [this]; exact hE j hj'

end LeafKf

namespace LeafKf.Example

theorem ent_u0 : EntMem mem 5 (7 * 0) us[0] [0, 1, 3] :=
  ⟨by decide, ⟨6, rfl, rfl, by decide⟩, ⟨7, rfl, rfl, by decide⟩, ⟨.ptr 8 0, rfl, .some 8 _ rfl, fun b hb => by cases hb; decide⟩,
    ⟨.null, rfl, .none, fun b hb => by cases hb⟩, ⟨.null, rfl, .none, fun b hb => by cases hb⟩, rfl⟩

theorem base_full : SrcMem mem 4 5 us [0, 1, 3] :=
  ⟨⟨_, rfl, rfl, rfl, rfl⟩, by decide, ⟨_, rfl, rfl, rfl⟩, by decide, fun i hi => by
    have : i = 0 := by simp [us] at hi; omega
    subst this
    exact ent_u0⟩

/-- the same memory meets the hypotheses of `C_add_new_groups` (nothing in the array yet) -/
theorem ctx_add : AgCtx mem 0 1 3 2 4 5 9 10 us es 0 3 0 :=
  ⟨override_ok, base_full, ⟨_, rfl, rfl, rfl⟩, by decide, by decide, by decide, by decide, by decide, by decide, by decide, by decide, by decide, by decide,
    fun e he => by
      simp [es] at he
      rcases he with rfl | rfl | rfl <;> decide⟩

theorem model_add : Econf.addNewGroups us es = [{ group := [66], key := [121], value := none, cb := none, ca := none, line := 5, quotes := false }] := by
  decide

/-- `add_new_groups` on it: one entry (group `B`, the base has no such group) is appended, the array is cut to one entry -/
theorem run_add : ∃ m' loc' bl' gl' fa', exec 10 LeafFns.add_new_groups.body
      { mem := mem, loc := [.ptr 0 0, .ptr 2 0, .ptr 4 0, .ptr 9 0, .int 0, .undef, .undef, .undef, .undef, .undef] } = .ret (.int 1) { mem := m', loc := loc' } ∧
    GlMem m' 0 bl' gl' ∧ gl'.map (·.2) = [[66]] ∧
    EntMem m' fa' 0 { group := [66], key := [121], value := none, cb := none, ca := none, line := 5, quotes := false } [0, bl'] := by
  obtain ⟨m', loc', bl', gl', fa', hex, hG, hn, _, _, hE, _, _, _⟩ :=
    C_add_new_groups mem 0 1 3 2 4 5 9 10 us es [] 3 0 ctx_add (fun cblk hb => by cases hb; exact ⟨rfl, rfl⟩) dest_ok
      (fun blk hb => by cases hb; rfl) (by decide) (fun x hx => by cases hx) _ rfl rfl rfl rfl rfl 10 (by decide)
  rw [model_add] at hex hn hE
  exact ⟨m', loc', bl', gl', fa', by simpa using hex, hG, by simpa [Econf.addGroup] using hn, by simpa using hE 0 (by simp)⟩

end LeafKf.Example

