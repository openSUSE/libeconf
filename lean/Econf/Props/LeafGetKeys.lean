import Econf.Props.LeafGetters

/-!
  # `econf_getKeys` (lib/libeconf.c) on the generated term

  The translator turns `calloc(n, sizeof(bool))` and `calloc(n + 1, sizeof(char *))` into an allocation followed by a zeroing loop, so
  the body has four loops: zero the flags, mark and count the entries of the group, zero the key array, copy the keys.
-/
open MiniC Leaf LeafKf
namespace LeafKf

abbrev gkU64_0 : Expr := .cast .u64 (.lit 0 .i32)
def gkInc (v : Nat) : Expr := .incdec (.var v) true true .u64
def gkKfLen : Expr := .load (.slot (.load (.var 0) .ptr) 1) .u64
def gkKeysArr : Expr := .load (.slot (.load (.var 3) .ptr) 0) .ptr
def gkFlag (vi : Nat) : LVal := .deref (.bin .add (.load (.var 6) .ptr) (.load (.var vi) .u64) .ptr)
def gkFree (v : Nat) : Stmt := .expr (.call "free" (.cons (.load (.var v) .ptr) .nil))
def gkRet (c : Int) : Stmt := .ret (some (.cast .u32 (.lit c .i32)))
/-- `if (length) *length = e` -/
def gkSetLen (e : Expr) : Stmt := .ite (.bin .ne (.load (.var 2) .ptr) .null .i32) (.expr (.assign (.slot (.load (.var 2) .ptr) 0) e .u64)) .skip
/-- the zeroing loop of `calloc(n, sizeof(bool))`: pointer in variable `vp`, counter `vi`, bound `vn` -/
def zbTest (vi vn : Nat) : Expr := .bin .lt (.load (.var vi) .u64) (.load (.var vn) .u64) .i32
def zbBody (vp vi : Nat) : Stmt := .expr (.assign (.deref (.bin .add (.load (.var vp) .ptr) (.load (.var vi) .u64) .ptr)) (.cast .bool (.lit 0 .i32)) .bool)
def zbLoop (vp vi vn : Nat) : Stmt := .for (some (zbTest vi vn)) (some (gkInc vi)) (zbBody vp vi)
/-- the zeroing loop of `calloc(n, sizeof(char *))`: the array is `*vk`, counter `vi`, bound `vn` -/
def zwBody (vk vi : Nat) : Stmt := .expr (.assign (.slot (.sidx (.load (.slot (.load (.var vk) .ptr) 0) .ptr) (.load (.var vi) .u64) 1) 0) .null .ptr)
def zwLoop (vk vi vn : Nat) : Stmt := .for (some (zbTest vi vn)) (some (gkInc vi)) (zwBody vk vi)
def gkKfTest (vi : Nat) : Expr := .bin .lt (.load (.var vi) .u64) gkKfLen .i32
def gkMatch : Expr := .un .lnot (.call "strcmp" (.cons (.load (.slot (.sidx (.load (.slot (.load (.var 0) .ptr) 0) .ptr) (.load (.var 9) .u64) 7) 0) .ptr) (.cons (.load (.var 5) .ptr) .nil))) .i32
def gkMark : Stmt := .seq (.expr (.assign (gkFlag 9) (.cast .bool (.lit 1 .i32)) .bool)) (.expr (gkInc 4))
def gkMarkBody : Stmt := .ite gkMatch gkMark .skip
def gkMarkLoop : Stmt := .for (some (gkKfTest 9)) (some (gkInc 9)) gkMarkBody
def gkCopy : Stmt := .expr (.assign (.slot (.sidx gkKeysArr (gkInc 13) 1) 0)
  (.call "strdup" (.cons (.load (.slot (.sidx (.load (.slot (.load (.var 0) .ptr) 0) .ptr) (.load (.var 12) .u64) 7) 1) .ptr) .nil)) .ptr)
def gkCopyBody : Stmt := .ite (.load (gkFlag 12) .bool) gkCopy .skip
def gkCopyLoop : Stmt := .for (some (gkKfTest 12)) (some (gkInc 12)) gkCopyBody
/-- everything behind `free(group)` -/
def gkTail : Stmt :=
  .seq (.ite (.un .lnot (.load (.var 4) .u64) .i32) (.seq (gkFree 6) (gkRet 5)) .skip)
    (.seq (.expr (.assign (.var 10) (.bin .add (.load (.var 4) .u64) (.cast .u64 (.lit 1 .i32)) .u64) .u64))
      (.seq (.expr (.assign (.slot (.load (.var 3) .ptr) 0) (.call "malloc_words" (.cons (.bin .mul (.load (.var 10) .u64) (.lit 1 .u64) .u64) .nil)) .ptr))
        (.seq (.expr (.assign (.var 11) gkU64_0 .u64))
          (.seq (zwLoop 3 11 10)
            (.seq (.ite (.bin .eq gkKeysArr .null .i32) (.seq (gkFree 6) (gkRet 2)) .skip)
              (.seq (.expr (.assign (.var 12) gkU64_0 .u64))
                (.seq (.expr (.assign (.var 13) gkU64_0 .u64))
                  (.seq gkCopyLoop
                    (.seq (gkSetLen (.load (.var 4) .u64))
                      (.seq (gkFree 6) (gkRet 0)))))))))))

/-- the shape of the generated term (checked by `rfl` against what the translator produced on this run) -/
theorem econf_getKeys_shape : LeafFns.econf_getKeys.body =
    .seq (gkSetLen gkU64_0)
      (.seq (.ite (.un .lnot (.load (.var 0) .ptr) .i32) (gkRet 1) .skip)
        (.seq (.expr (.assign (.var 4) gkU64_0 .u64))
          (.seq (.expr (.assign (.var 5) fkGrp .ptr))
            (.seq (.ite (.bin .eq (.load (.var 5) .ptr) .null .i32) (gkRet 2) .skip)
              (.seq (.expr (.assign (.var 7) gkKfLen .u64))
                (.seq (.expr (.assign (.var 6) (.call "malloc" (.cons (.bin .mul (.load (.var 7) .u64) (.lit 1 .u64) .u64) .nil)) .ptr))
                  (.seq (.expr (.assign (.var 8) gkU64_0 .u64))
                    (.seq (zbLoop 6 8 7)
                      (.seq (.ite (.bin .eq (.load (.var 6) .ptr) .null .i32) (.seq (gkFree 5) (gkRet 2)) .skip)
                        (.seq (.expr (.assign (.var 9) gkU64_0 .u64))
                          (.seq gkMarkLoop
                            (.seq (gkFree 5) gkTail)))))))))))) := rfl

/-! ## what the two zeroing loops share -/

/-- `i < n` on two `size_t` variables -/
theorem zb_test (vi vn : Nat) (mm : Mem) (loc : List Val) (i n : Nat) (hi : loc[vi]? = some (.int (i : Int))) (hn : loc[vn]? = some (.int (n : Int))) :
    testOf (some (zbTest vi vn)) { mem := mm, loc := loc } = .ok (decide (i < n), { mem := mm, loc := loc }) := by
  by_cases h : i < n
  · have : (i : Int) < (n : Int) := by omega
    simp [mc_eval, zbTest, testOf, hi, hn, binop, cmpInt, boolVal, truth, this, h]
  · have : ¬ (i : Int) < (n : Int) := by omega
    simp [mc_eval, zbTest, testOf, hi, hn, binop, cmpInt, boolVal, truth, this, h]

/-- the place `p[i]` for a byte array `p` -/
theorem flag_place (vp vi : Nat) (mm : Mem) (loc : List Val) (ub i : Nat) (blk : Block) (hp : loc[vp]? = some (.ptr ub 0)) (hi : loc[vi]? = some (.int (i : Int)))
    (h1 : mm[ub]? = some blk) (h2 : blk.live = true) (hle : i ≤ blk.cells.length) :
    evalL (.deref (.bin .add (.load (.var vp) .ptr) (.load (.var vi) .u64) .ptr)) { mem := mm, loc := loc } = .ok (.mem ub (i : Int), { mem := mm, loc := loc }) := by
  have : (0 : Int) ≤ (i : Int) ∧ (i : Int) ≤ (blk.cells.length : Int) := by omega
  simp [mc_eval, hp, hi, binop, ptrAdd, Mem.block, h1, h2, this]

/-- `for_upto` for `for (i = 0; i < n; i++) body` with a body that acts on the memory only: counter in variable `vi`, bound in `vn` -/
theorem for_upto_mem (fuel : Nat) (body : Stmt) (loc : List Val) (vi vn n : Nat) (P : Nat → Mem → Prop)
    (hn : loc[vn]? = some (.int (n : Int))) (hvi : vi < loc.length) (hne : vi ≠ vn)
    (hbody : ∀ i mm, i < n → P i mm → ∃ m', exec fuel body { mem := mm, loc := loc.set vi (.int (i : Int)) } =
      .normal { mem := m', loc := loc.set vi (.int (i : Int)) } ∧ P (i + 1) m')
    (hsmall : (n : Int) + 1 < 18446744073709551616) (m : Mem) (h0 : P 0 m) (hf : n < fuel) :
    ∃ m', exec fuel (.for (some (zbTest vi vn)) (some (gkInc vi)) body) { mem := m, loc := loc.set vi (.int ((0 : Nat) : Int)) } =
        .normal { mem := m', loc := loc.set vi (.int (n : Int)) } ∧ P n m' :=
  for_upto fuel n (zbTest vi vn) (gkInc vi) body (fun i => loc.set vi (.int (i : Int))) P
    (fun i mm _ _ => zb_test vi vn mm _ i n (by simp [hvi]) (by rw [List.getElem?_set_ne hne]; exact hn))
    (fun i mm hi hP => by
      obtain ⟨m', hb, hP'⟩ := hbody i mm hi hP
      exact ⟨m', _, hb, incdec_u64_var vi m' loc i hvi (by omega), hP'⟩)
    m h0 hf

/-- the loop behind `calloc(kf->length, sizeof(bool))`: afterwards the `n` bytes of `uniques` are 0, no other block has changed -/
theorem zero_bytes_loop (fuel : Nat) (m : Mem) (loc : List Val) (vp vi vn ub n : Nat)
    (hp : loc[vp]? = some (.ptr ub 0)) (hn : loc[vn]? = some (.int (n : Int))) (hvi : vi < loc.length) (hne1 : vi ≠ vp) (hne2 : vi ≠ vn)
    (hb : MemPart m ub [] n) (hsmall : (n : Int) + 1 < 18446744073709551616) (hf : n < fuel) :
    ∃ m', exec fuel (zbLoop vp vi vn) { mem := m, loc := loc.set vi (.int ((0 : Nat) : Int)) } = .normal { mem := m', loc := loc.set vi (.int (n : Int)) } ∧
      MemBytes m' ub (List.replicate n 0) ∧ m'.length = m.length ∧ ∀ b', b' ≠ ub → m'[b']? = m[b']? := by
  obtain ⟨m', hl, hP, hlen, hfr⟩ := for_upto_mem fuel (zbBody vp vi) loc vi vn n
    (fun i mm => MemPart mm ub (List.replicate i 0) (n - i) ∧ mm.length = m.length ∧ ∀ b', b' ≠ ub → mm[b']? = m[b']?) hn hvi hne2
    (fun i mm hi ⟨hP, hlen, hfr⟩ => by
      obtain ⟨blk, b1, b2, b3, b4⟩ := hP.blk
      have hP' : MemPart mm ub (List.replicate i 0) ((n - (i + 1)) + 1) := by
        have : n - i = (n - (i + 1)) + 1 := by omega
        exact this ▸ hP
      obtain ⟨m1, s1, s2, s3, s4⟩ := hP'.store8 0
      rw [List.length_replicate] at s1
      rw [byteOf_zero, ← List.replicate_succ'] at s2
      have hpl := flag_place vp vi mm (loc.set vi (.int (i : Int))) ub i blk (by rw [List.getElem?_set_ne hne1]; exact hp) (by simp [hvi]) b1 b2 (by rw [b4]; simp)
      exact ⟨m1, exec_store_flag (Or.inl rfl) hpl s1, s2, by rw [s3, hlen], fun b' hb' => by rw [s4 b' hb', hfr b' hb']⟩)
    hsmall m ⟨by simpa using hb, rfl, fun _ _ => rfl⟩ hf
  rw [Nat.sub_self] at hP
  exact ⟨m', hl, hP.toBytes, hlen, hfr⟩

/-- the loop behind `calloc(num + 1, sizeof(char *))`: afterwards the `n` words of `*keys` are NULL, no other block has changed -/
theorem zero_words_loop (fuel : Nat) (m : Mem) (loc : List Val) (vk vi vn ck a n : Nat) (gb : Block)
    (hk : loc[vk]? = some (.ptr ck 0)) (hn : loc[vn]? = some (.int (n : Int))) (hvi : vi < loc.length) (hne1 : vi ≠ vk) (hne2 : vi ≠ vn)
    (hck : m[ck]? = some { gb with slots := [.ptr a 0] }) (hg1 : gb.live = true)
    (ha : m[a]? = some { cells := [], slots := List.replicate n .undef }) (hane : ck ≠ a)
    (hsmall : (n : Int) + 1 < 18446744073709551616) (hf : n < fuel) :
    ∃ m', exec fuel (zwLoop vk vi vn) { mem := m, loc := loc.set vi (.int ((0 : Nat) : Int)) } = .normal { mem := m', loc := loc.set vi (.int (n : Int)) } ∧
      m'[a]? = some { cells := [], slots := List.replicate n .null } ∧ m'.length = m.length ∧ ∀ b', b' ≠ a → m'[b']? = m[b']? := by
  obtain ⟨m', hl, hP, hlen, hfr⟩ := for_upto_mem fuel (zwBody vk vi) loc vi vn n
    (fun i mm => mm[a]? = some { cells := [], slots := List.replicate i .null ++ List.replicate (n - i) .undef } ∧
      mm.length = m.length ∧ ∀ b', b' ≠ a → mm[b']? = m[b']?) hn hvi hne2
    (fun i mm hi ⟨hP, hlen, hfr⟩ => by
      have hlk : (loc.set vi (.int (i : Int)))[vk]? = some (.ptr ck 0) := by rw [List.getElem?_set_ne hne1]; exact hk
      have hpl := evalL_word (cell_load vk .ptr mm _ ck gb _ hlk (by rw [hfr ck hane]; exact hck) hg1 (by simp))
        (evalE_var (v := vi) (ty := .u64) (st := ⟨mm, _⟩) (w := .int (i : Int)) (by simp [hvi]) (by simp)) hP rfl (by simp)
      have hst := storeSlot_of (m := mm) (b := a) (i := i) .null hP rfl rfl (by simp; omega)
      rw [set_append_replicate _ _ _ _ _ (by simp) (by omega), ← List.replicate_succ'] at hst
      exact ⟨_, exec_assign_slot hpl (evalE_null _) rfl (by simp) hst, List.getElem?_set_self (List.getElem?_eq_some_iff.1 hP).1, by simp [hlen],
        fun b' hb' => by rw [set_other hb', hfr b' hb']⟩)
    hsmall m ⟨by simpa using ha, rfl, fun _ _ => rfl⟩ hf
  exact ⟨m', hl, by simpa using hP, hlen, hfr⟩

/-- the flags `econf_getKeys` computes: one byte per entry, 1 for the entries of the group -/
def gkFlags (ents : Ents) (nm : List UInt8) : List UInt8 := ents.map (fun e => b2u (decide (e.1 = nm)))
def gkCount (ents : Ents) (nm : List UInt8) : Nat := (ents.filter (fun e => decide (e.1 = nm))).length

theorem gkFlags_take_succ (ents : Ents) (nm : List UInt8) (i : Nat) (hi : i < ents.length) :
    gkFlags (ents.take (i + 1)) nm = gkFlags (ents.take i) nm ++ [b2u (decide ((ents[i]).1 = nm))] := by
  unfold gkFlags
  rw [List.take_succ_eq_append_getElem hi, List.map_append]; rfl

theorem gkCount_take_succ (ents : Ents) (nm : List UInt8) (i : Nat) (hi : i < ents.length) :
    gkCount (ents.take (i + 1)) nm = gkCount (ents.take i) nm + (if (ents[i]).1 = nm then 1 else 0) := by
  rw [List.take_succ_eq_append_getElem hi]
  unfold gkCount
  rw [List.filter_append, List.length_append]
  by_cases h : (ents[i]).1 = nm <;> simp [List.filter, h]

theorem gkCount_le (ents : Ents) (nm : List UInt8) : gkCount ents nm ≤ ents.length := List.length_filter_le _ _

theorem gkFlags_length (ents : Ents) (nm : List UInt8) : (gkFlags ents nm).length = ents.length := by simp [gkFlags]

theorem gkCount_nil (nm : List UInt8) : gkCount [] nm = 0 := rfl

/-- round `i` of the marking loop, `if (!strcmp(kf->file_entry[i].group, group)) { uniques[i] = 1; num++; }`: flags and count follow `gkFlags`, `gkCount` -/
theorem mark_round (fuel : Nat) (mm : Mem) (loc : List Val) (bk be gb ub : Nat) (ents : Ents) (nm : List UInt8) (i : Nat)
    (hK : KfMem mm bk be ents) (hg : mm.cstr gb 0 = .ok nm) (hi : i < ents.length)
    (hl0 : loc[0]? = some (.ptr bk 0)) (hl5 : loc[5]? = some (.ptr gb 0)) (hl6 : loc[6]? = some (.ptr ub 0)) (hlen : 9 < loc.length)
    (hP : MemBytes mm ub (gkFlags (ents.take i) nm ++ List.replicate (ents.length - i) 0))
    (hsmall : (ents.length : Int) + 1 < 18446744073709551616) :
    ∃ m' L', exec fuel gkMarkBody { mem := mm, loc := (loc.set 4 (.int (gkCount (ents.take i) nm : Int))).set 9 (.int (i : Int)) } =
        .normal { mem := m', loc := L' } ∧
      stepOf (some (gkInc 9)) { mem := m', loc := L' } =
        .ok { mem := m', loc := (loc.set 4 (.int (gkCount (ents.take (i + 1)) nm : Int))).set 9 (.int ((i + 1 : Nat) : Int)) } ∧
      MemBytes m' ub (gkFlags (ents.take (i + 1)) nm ++ List.replicate (ents.length - (i + 1)) 0) ∧ m'.length = mm.length ∧
      ∀ b', b' ≠ ub → m'[b']? = mm[b']? := by
  obtain ⟨c, hc⟩ : ∃ c, c = gkCount (ents.take i) nm := ⟨_, rfl⟩
  have hci : c ≤ i := by have := gkCount_le (ents.take i) nm; rw [List.length_take] at this; omega
  have hfl := gkFlags_take_succ ents nm i hi
  have hct := gkCount_take_succ ents nm i hi
  have hflen : (gkFlags (ents.take i) nm).length = i := by rw [gkFlags_length, List.length_take]; omega
  rw [← hc] at hct ⊢
  obtain ⟨L, hL⟩ : ∃ L : List Val, L = (loc.set 4 (.int (c : Int))).set 9 (.int (i : Int)) := ⟨_, rfl⟩
  rw [← hL]
  have hL0 : L[0]? = some (.ptr bk 0) := by rw [hL, getElem?_set_set_ne (by omega) (by omega)]; exact hl0
  have hL5 : L[5]? = some (.ptr gb 0) := by rw [hL, getElem?_set_set_ne (by omega) (by omega)]; exact hl5
  have hL6 : L[6]? = some (.ptr ub 0) := by rw [hL, getElem?_set_set_ne (by omega) (by omega)]; exact hl6
  have hL9 : L[9]? = some (.int (i : Int)) := by rw [hL]; simp [hlen]
  have hmt : testOf (some gkMatch) { mem := mm, loc := L } = _ := testOf_boolVal (hK.groupIs hL0 hL9 hL5 hg hi)
  by_cases hm : (ents[i]).1 = nm
  · rw [beq_iff_eq.2 hm] at hmt
    rw [if_pos hm] at hct
    obtain ⟨blk, b1, b2, b3, b4⟩ := hP.blk
    obtain ⟨m1, s1, s2, s3, s4⟩ := hP.store8_int i (by simp [hflen]; omega) 1
    have hpl := flag_place 6 9 mm L ub i blk hL6 hL9 b1 b2 (by rw [b4]; simp [hflen] <;> omega)
    rw [set_append_replicate _ _ _ _ _ hflen.symm (by omega), byteOf_one] at s2
    have hfl1 : gkFlags (ents.take (i + 1)) nm = gkFlags (ents.take i) nm ++ [1] := by rw [hfl, decide_eq_true hm]; rfl
    rw [← hfl1] at s2
    have hS2 : exec fuel (.expr (gkInc 4)) { mem := m1, loc := L } = .normal { mem := m1, loc := (loc.set 4 (.int ((c + 1 : Nat) : Int))).set 9 (.int (i : Int)) } := by
      rw [← set_set_other (by decide : 9 ≠ 4) (.int (c : Int)) (.int (i : Int)) (.int ((c + 1 : Nat) : Int)), ← hL]
      exact exec_expr_ok (incdec_u64_eval 4 m1 L c (by rw [hL, List.getElem?_set_ne (by decide), List.getElem?_set_self (by omega)]) (by omega))
    refine ⟨m1, _, by unfold gkMarkBody gkMark gkFlag; rw [exec_ite_true hmt, exec_seq_normal (exec_store_flag (Or.inr rfl) hpl s1)]; exact hS2, ?_, s2, s3, s4⟩
    rw [hct]
    exact incdec_u64_var 9 m1 (loc.set 4 (.int ((c + 1 : Nat) : Int))) i (by rw [List.length_set]; exact hlen) (by omega)
  · rw [beq_eq_false_iff_ne.2 hm] at hmt
    rw [if_neg hm, Nat.add_zero] at hct
    refine ⟨mm, L, by unfold gkMarkBody; exact exec_ite_skip hmt, ?_, ?_, rfl, fun _ _ => rfl⟩
    · rw [hct, hL]
      exact incdec_u64_var 9 mm (loc.set 4 (.int (c : Int))) i (by rw [List.length_set]; exact hlen) (by omega)
    · have hfl0 : gkFlags (ents.take (i + 1)) nm = gkFlags (ents.take i) nm ++ [0] := by rw [hfl, decide_eq_false hm]; rfl
      rw [replicate_pos 0 (Nat.sub_pos_of_lt hi)] at hP
      rw [hfl0, List.append_assoc]
      exact hP

/-- the marking loop: afterwards the flags of the entries of the group are set and `num` counts them -/
theorem mark_loop (fuel : Nat) (m0 m : Mem) (loc : List Val) (bk be gb ub : Nat) (ents : Ents) (nm : List UInt8)
    (h : KfMem m0 bk be ents) (hm0 : ∀ b, b < m0.length → m[b]? = m0[b]?) (hub : m0.length ≤ ub) (hg : m.cstr gb 0 = .ok nm) (hgu : gb ≠ ub)
    (hl0 : loc[0]? = some (.ptr bk 0)) (hl5 : loc[5]? = some (.ptr gb 0)) (hl6 : loc[6]? = some (.ptr ub 0)) (hlen : 9 < loc.length)
    (hb : MemBytes m ub (List.replicate ents.length 0))
    (hsmall : (ents.length : Int) + 1 < 18446744073709551616) (hf : ents.length < fuel) :
    ∃ m', exec fuel gkMarkLoop { mem := m, loc := (loc.set 4 (.int ((0 : Nat) : Int))).set 9 (.int ((0 : Nat) : Int)) } =
        .normal { mem := m', loc := (loc.set 4 (.int (gkCount ents nm : Int))).set 9 (.int (ents.length : Int)) } ∧
      MemBytes m' ub (gkFlags ents nm) ∧ m'.length = m.length ∧ ∀ b', b' ≠ ub → m'[b']? = m[b']? := by
  have hKm : ∀ mm : Mem, (∀ b', b' ≠ ub → mm[b']? = m[b']?) → KfMem mm bk be ents := fun mm hfr =>
    h.mono (fun b hb => by rw [hfr b (by omega), hm0 b hb])
  obtain ⟨m', hl, hP, hlen', hfr⟩ := for_upto fuel ents.length (gkKfTest 9) (gkInc 9) gkMarkBody
    (fun i => (loc.set 4 (.int (gkCount (ents.take i) nm : Int))).set 9 (.int (i : Int)))
    (fun i mm => MemBytes mm ub (gkFlags (ents.take i) nm ++ List.replicate (ents.length - i) 0) ∧ mm.length = m.length ∧
      ∀ b', b' ≠ ub → mm[b']? = m[b']?)
    (fun i mm _ ⟨_, _, hfr⟩ => (hKm mm hfr).evalTest (by rw [getElem?_set_set_ne (by omega) (by omega)]; exact hl0) (by simp [hlen]))
    (fun i mm hi ⟨hP, hlen', hfr⟩ => by
      obtain ⟨m', L', hb, hs, hP', hl', hfr'⟩ := mark_round fuel mm loc bk be gb ub ents nm i (hKm mm hfr) (by rw [cstr_congr (hfr gb hgu)]; exact hg) hi
        hl0 hl5 hl6 hlen hP hsmall
      exact ⟨m', L', hb, hs, hP', by rw [hl', hlen'], fun b' hb' => by rw [hfr' b' hb', hfr b' hb']⟩)
    m ⟨by simpa [gkFlags] using hb, rfl, fun _ _ => rfl⟩ hf
  simp only [List.take_length, List.take_zero, gkCount_nil, Nat.sub_self, List.replicate_zero, List.append_nil] at hP hl
  exact ⟨m', hl, hP, hlen', hfr⟩

/-- the keys `econf_getKeys` returns: those of the entries of the group, in the order of the array -/
def gkKeys (ents : Ents) (nm : List UInt8) : List (List UInt8) := (ents.filter (fun e => decide (e.1 = nm))).map (·.2)

theorem gkKeys_length (ents : Ents) (nm : List UInt8) : (gkKeys ents nm).length = gkCount ents nm := by simp [gkKeys, gkCount]

theorem gkKeys_take_succ (ents : Ents) (nm : List UInt8) (i : Nat) (hi : i < ents.length) :
    gkKeys (ents.take (i + 1)) nm = gkKeys (ents.take i) nm ++ (if (ents[i]).1 = nm then [(ents[i]).2] else []) := by
  rw [List.take_succ_eq_append_getElem hi]
  unfold gkKeys
  rw [List.filter_append, List.map_append]
  by_cases h : (ents[i]).1 = nm <;> simp [List.filter, h]

theorem gkCount_take_le (ents : Ents) (nm : List UInt8) (k : Nat) : gkCount (ents.take k) nm ≤ gkCount ents nm :=
  ((List.take_sublist k ents).filter _).length_le

theorem KfMem.frame {m m' : Mem} {bk be : Nat} {ents : Ents} (h : KfMem m bk be ents) (av : Nat → Prop)
    (hm : ∀ b, b < m.length → ¬ av b → m'[b]? = m[b]?) (h1 : ¬ av bk) (h2 : ¬ av be) (h3 : ∀ b s, av b → m.cstr b 0 ≠ .ok s) :
    KfMem m' bk be ents := by
  obtain ⟨blk, k1, k2, k3, k4⟩ := h.kf
  obtain ⟨ablk, a1, a2, a3, a4⟩ := h.arr
  have lk : bk < m.length := (List.getElem?_eq_some_iff.1 k1).1
  have la : be < m.length := (List.getElem?_eq_some_iff.1 a1).1
  refine ⟨⟨blk, by rw [hm bk lk h1]; exact k1, k2, k3, k4⟩, ⟨ablk, by rw [hm be la h2]; exact a1, a2, a3, ?_⟩⟩
  intro i hi
  obtain ⟨bg, bq, e1, e2, e3, e4⟩ := a4 i hi
  exact ⟨bg, bq, e1, e2, by rw [cstr_congr (hm bg (cstr_lt e3) (fun hav => h3 bg _ hav e3))]; exact e3,
    by rw [cstr_congr (hm bq (cstr_lt e4) (fun hav => h3 bq _ hav e4))]; exact e4⟩

/-- `uniques[i]` as a condition -/
theorem gk_flag_test (vi : Nat) (mm : Mem) (loc : List Val) (ub i : Nat) (fl : List UInt8) (f : Bool) (hb : MemBytes mm ub fl) (hi : i < fl.length) (hf : fl[i] = b2u f)
    (hl6 : loc[6]? = some (.ptr ub 0)) (hli : loc[vi]? = some (.int (i : Int))) :
    testOf (some (.load (gkFlag vi) .bool)) { mem := mm, loc := loc } = .ok (f, { mem := mm, loc := loc }) := by
  obtain ⟨blk, b1, b2, b3, b4⟩ := hb.blk
  have hpl := flag_place 6 vi mm loc ub i blk hl6 hli b1 b2 (by rw [b4]; simp; omega)
  have hld := hb.load8 i hi
  rw [hf] at hld
  have s1 : sch 1 = 1 := by decide
  have s0 : sch 0 = 0 := by decide
  have b1' : wrapTo .bool 1 = 1 := by decide
  have b0' : wrapTo .bool 0 = 0 := by decide
  simp only [mc_eval, gkFlag, testOf, hpl]
  cases f <;> simp [b2u, s1, s0] at hld <;> simp [mc_eval, hld, b1', b0', truth]

/-- the body of the `if` in the copying loop, `(*keys)[j++] = strdup(kf->file_entry[i].key)`: the copy is the new last block -/
theorem copy_keep (fuel : Nat) (mm : Mem) (loc : List Val) (bk be ck a : Nat) (gb : Block) (ents : Ents) (i j : Nat) (sl : List Val)
    (hK : KfMem mm bk be ents) (hi : i < ents.length) (hck : mm[ck]? = some { gb with slots := [.ptr a 0] }) (hg1 : gb.live = true)
    (hA : mm[a]? = some { cells := [], slots := sl }) (hj : j < sl.length)
    (hl0 : loc[0]? = some (.ptr bk 0)) (hl3 : loc[3]? = some (.ptr ck 0)) (hlen : 13 < loc.length) (hjs : (j : Int) + 1 < 18446744073709551616) :
    ∃ m', exec fuel gkCopy { mem := mm, loc := (loc.set 13 (.int (j : Int))).set 12 (.int (i : Int)) } =
        .normal { mem := m', loc := (loc.set 13 (.int ((j + 1 : Nat) : Int))).set 12 (.int (i : Int)) } ∧
      m'.length = mm.length + 1 ∧ m'[a]? = some { cells := [], slots := sl.set j (.ptr mm.length 0) } ∧
      m'.cstr mm.length 0 = .ok (ents[i]).2 ∧ ∀ b, b < mm.length → b ≠ a → m'[b]? = mm[b]? := by
  obtain ⟨L', hL'⟩ : ∃ L' : List Val, L' = (loc.set 13 (.int ((j + 1 : Nat) : Int))).set 12 (.int (i : Int)) := ⟨_, rfl⟩
  rw [← hL']
  have hI : evalE (gkInc 13) { mem := mm, loc := (loc.set 13 (.int (j : Int))).set 12 (.int (i : Int)) } = .ok (.int (j : Int), { mem := mm, loc := L' }) := by
    rw [hL', ← set_set_other (by decide : 12 ≠ 13) (.int (j : Int)) (.int (i : Int)) (.int ((j + 1 : Nat) : Int))]
    exact incdec_u64_eval 13 mm _ j (by rw [List.getElem?_set_ne (by omega : 12 ≠ 13), List.getElem?_set_self hlen]) hjs
  have hpl := evalL_word (cell_load 3 .ptr mm _ ck gb _ (by rw [getElem?_set_set_ne (by omega) (by omega)]; exact hl3) hck hg1 (by simp)) hI hA rfl
    (Nat.le_of_lt hj)
  obtain ⟨bq, hkey, cq⟩ := hK.evalKey (loc := L') (vk := 0) (vi := 12) (by rw [hL', getElem?_set_set_ne (by omega) (by omega)]; exact hl0)
    (by rw [hL']; simp [show 12 < loc.length by omega]) hi
  exact exec_strdup_word hpl hkey cq hA hj

/-- one round of the copying loop; `res` lists block and key of the copies made so far, all behind block `N` -/
theorem copy_round (fuel : Nat) (mm : Mem) (loc : List Val) (bk be ck ub a N cnt : Nat) (gb : Block) (ents : Ents) (nm : List UInt8) (i : Nat)
    (res : List (Nat × List UInt8)) (hK : KfMem mm bk be ents) (hi : i < ents.length) (hub : MemBytes mm ub (gkFlags ents nm))
    (hck : mm[ck]? = some { gb with slots := [.ptr a 0] }) (hg1 : gb.live = true)
    (hres : res.map (·.2) = gkKeys (ents.take i) nm) (hcnt : gkCount (ents.take (i + 1)) nm ≤ cnt) (hN : N ≤ mm.length)
    (hA : mm[a]? = some { cells := [], slots := res.map (fun e => Val.ptr e.1 0) ++ List.replicate (cnt + 1 - res.length) .null })
    (hstr : ∀ e, e ∈ res → N ≤ e.1 ∧ mm.cstr e.1 0 = .ok e.2)
    (hl0 : loc[0]? = some (.ptr bk 0)) (hl3 : loc[3]? = some (.ptr ck 0)) (hl6 : loc[6]? = some (.ptr ub 0)) (hlen : 13 < loc.length)
    (hsmall : (ents.length : Int) + 1 < 18446744073709551616) :
    ∃ (m' : Mem) (L' : List Val) (res' : List (Nat × List UInt8)),
      exec fuel gkCopyBody { mem := mm, loc := (loc.set 13 (.int (gkCount (ents.take i) nm : Int))).set 12 (.int (i : Int)) } =
        .normal { mem := m', loc := L' } ∧
      stepOf (some (gkInc 12)) { mem := m', loc := L' } =
        .ok { mem := m', loc := (loc.set 13 (.int (gkCount (ents.take (i + 1)) nm : Int))).set 12 (.int ((i + 1 : Nat) : Int)) } ∧
      res'.map (·.2) = gkKeys (ents.take (i + 1)) nm ∧ mm.length ≤ m'.length ∧ (∀ b, b < mm.length → b ≠ a → m'[b]? = mm[b]?) ∧
      m'[a]? = some { cells := [], slots := res'.map (fun e => Val.ptr e.1 0) ++ List.replicate (cnt + 1 - res'.length) .null } ∧
      (∀ e, e ∈ res' → N ≤ e.1 ∧ m'.cstr e.1 0 = .ok e.2) := by
  have hj : res.length = gkCount (ents.take i) nm := by
    have := congrArg List.length hres
    simpa [gkKeys_length] using this
  have hji : res.length ≤ i := by have := gkCount_le (ents.take i) nm; rw [List.length_take] at this; omega
  have hct := gkCount_take_succ ents nm i hi
  have hkt := gkKeys_take_succ ents nm i hi
  rw [← hj] at hct ⊢
  obtain ⟨L, hL⟩ : ∃ L : List Val, L = (loc.set 13 (.int (res.length : Int))).set 12 (.int (i : Int)) := ⟨_, rfl⟩
  have hfi : (gkFlags ents nm)[i]'(by rw [gkFlags_length]; exact hi) = b2u (decide ((ents[i]).1 = nm)) := by simp [gkFlags]
  have hft := gk_flag_test 12 mm L ub i (gkFlags ents nm) (decide ((ents[i]).1 = nm)) hub (by rw [gkFlags_length]; exact hi) hfi
    (by rw [hL, getElem?_set_set_ne (by omega) (by omega)]; exact hl6) (by rw [hL]; simp [show 12 < loc.length by omega])
  rw [← hL]
  by_cases hm : (ents[i]).1 = nm
  · rw [decide_eq_true hm] at hft
    rw [if_pos hm] at hct hkt
    obtain ⟨m6, hcopy, hm6len, hm6a, hm6s, hm6fr⟩ := copy_keep fuel mm loc bk be ck a gb ents i res.length _ hK hi hck hg1 hA (by simp; omega)
      hl0 hl3 hlen (by omega)
    rw [set_append_replicate _ _ _ _ _ (by simp) (by omega)] at hm6a
    refine ⟨m6, _, res ++ [(mm.length, (ents[i]).2)], by unfold gkCopyBody; rw [exec_ite_true hft, hL]; exact hcopy, ?_,
      by rw [hkt, List.map_append, hres]; rfl, by omega, hm6fr, by rw [List.length_append, List.map_append]; exact hm6a, fun e he => ?_⟩
    · rw [hct]
      exact incdec_u64_var 12 m6 (loc.set 13 (.int ((res.length + 1 : Nat) : Int))) i (by rw [List.length_set]; omega) (by omega)
    · rcases List.mem_append.1 he with he | he
      · obtain ⟨s1, s2⟩ := hstr e he
        refine ⟨s1, ?_⟩
        rw [cstr_congr (hm6fr e.1 (cstr_lt s2) (fun heq => by rw [heq] at s2; exact no_cstr hA rfl _ s2))]; exact s2
      · simp at he; subst he
        exact ⟨hN, hm6s⟩
  · rw [decide_eq_false hm] at hft
    rw [if_neg hm] at hct hkt
    rw [Nat.add_zero] at hct
    rw [List.append_nil] at hkt
    refine ⟨mm, L, res, by unfold gkCopyBody; exact exec_ite_skip hft, ?_, by rw [hkt, hres], Nat.le_refl _, fun _ _ _ => rfl, hA, hstr⟩
    rw [hct, hL]
    exact incdec_u64_var 12 mm (loc.set 13 (.int (res.length : Int))) i (by rw [List.length_set]; omega) (by omega)

/-- the copying loop: every marked entry's key is copied into a fresh block, the copies' addresses fill the array in order -/
theorem copy_loop (fuel : Nat) (mA : Mem) (loc : List Val) (bk be ck ub a : Nat) (gb : Block) (ents : Ents) (nm : List UInt8)
    (hK : KfMem mA bk be ents) (habk : a ≠ bk) (habe : a ≠ be)
    (hck : mA[ck]? = some { gb with slots := [.ptr a 0] }) (hg1 : gb.live = true) (hcka : ck ≠ a)
    (hub : MemBytes mA ub (gkFlags ents nm)) (huba : ub ≠ a)
    (ha : mA[a]? = some { cells := [], slots := List.replicate (gkCount ents nm + 1) .null })
    (hl0 : loc[0]? = some (.ptr bk 0)) (hl3 : loc[3]? = some (.ptr ck 0)) (hl6 : loc[6]? = some (.ptr ub 0)) (hlen : 13 < loc.length)
    (hsmall : (ents.length : Int) + 1 < 18446744073709551616) (hf : ents.length < fuel) :
    ∃ (m' : Mem) (res : List (Nat × List UInt8)), exec fuel gkCopyLoop { mem := mA, loc := (loc.set 13 (.int ((0 : Nat) : Int))).set 12 (.int ((0 : Nat) : Int)) } =
        .normal { mem := m', loc := (loc.set 13 (.int (gkCount ents nm : Int))).set 12 (.int (ents.length : Int)) } ∧
      res.map (·.2) = gkKeys ents nm ∧ mA.length ≤ m'.length ∧ (∀ b, b < mA.length → b ≠ a → m'[b]? = mA[b]?) ∧
      m'[a]? = some { cells := [], slots := res.map (fun e => Val.ptr e.1 0) ++ [.null] } ∧
      (∀ e, e ∈ res → mA.length ≤ e.1 ∧ m'.cstr e.1 0 = .ok e.2) := by
  obtain ⟨cnt, hcnt⟩ : ∃ cnt, cnt = gkCount ents nm := ⟨_, rfl⟩
  rw [← hcnt] at ha ⊢
  have hckLt : ck < mA.length := (List.getElem?_eq_some_iff.1 hck).1
  have hKm : ∀ mm : Mem, (∀ b, b < mA.length → b ≠ a → mm[b]? = mA[b]?) → KfMem mm bk be ents := fun mm hfr =>
    hK.frame (fun b => b = a) (fun b hb hne => hfr b hb hne) (Ne.symm habk) (Ne.symm habe) (fun b s hb => by subst hb; exact no_cstr ha rfl _)
  obtain ⟨m', hl, res, hres, hlenA, hfr, hA, hstr⟩ := for_upto fuel ents.length (gkKfTest 12) (gkInc 12) gkCopyBody
    (fun i => (loc.set 13 (.int (gkCount (ents.take i) nm : Int))).set 12 (.int (i : Int)))
    (fun i mm => ∃ res : List (Nat × List UInt8), res.map (·.2) = gkKeys (ents.take i) nm ∧ mA.length ≤ mm.length ∧
      (∀ b, b < mA.length → b ≠ a → mm[b]? = mA[b]?) ∧
      mm[a]? = some { cells := [], slots := res.map (fun e => Val.ptr e.1 0) ++ List.replicate (cnt + 1 - res.length) .null } ∧
      (∀ e, e ∈ res → mA.length ≤ e.1 ∧ mm.cstr e.1 0 = .ok e.2))
    (fun i mm _ ⟨_, _, _, hfr, _, _⟩ => (hKm mm hfr).evalTest (by rw [getElem?_set_set_ne (by omega) (by omega)]; exact hl0)
      (by simp [show 12 < loc.length by omega]))
    (fun i mm hi ⟨res, hres, hlenA, hfr, hA, hstr⟩ => by
      obtain ⟨m', L', res', hb, hs, hres', hlen', hfr', hA', hstr'⟩ := copy_round fuel mm loc bk be ck ub a mA.length cnt gb ents nm i res
        (hKm mm hfr) hi (hub.of_block_eq (hfr ub hub.lt_length huba)) (by rw [hfr ck hckLt hcka]; exact hck) hg1 hres
        (hcnt ▸ gkCount_take_le ents nm (i + 1)) hlenA hA hstr hl0 hl3 hl6 hlen hsmall
      exact ⟨m', L', hb, hs, res', hres', Nat.le_trans hlenA hlen',
        fun b hb hne => (hfr' b (Nat.lt_of_lt_of_le hb hlenA) hne).trans (hfr b hb hne), hA', hstr'⟩)
    mA ⟨[], rfl, Nat.le_refl _, fun _ _ _ => rfl, by simpa using ha, fun e he => by simp at he⟩ hf
  simp only [List.take_length, List.take_zero, gkCount_nil, ← hcnt] at hres hl
  have hrl : res.length = cnt := by
    have := congrArg List.length hres
    simpa [gkKeys_length, ← hcnt] using this
  have e1 : cnt + 1 - res.length = 1 := by omega
  rw [e1] at hA
  exact ⟨m', res, hl, hres, hlenA, hfr, by simpa using hA, hstr⟩

/-- what the caller's side looks like for `econf_getKeys`: the two out-cells are one-word objects apart from the object and its array -/
structure GkCells (m : Mem) (bk be cl ck : Nat) (lb gb : Block) : Prop where
  hcl : m[cl]? = some lb
  hl1 : lb.live = true
  hl2 : lb.writable = true
  hl3 : lb.slots.length = 1
  hl4 : lb.cells = []
  hck : m[ck]? = some gb
  hg1 : gb.live = true
  hg2 : gb.writable = true
  hg3 : gb.slots.length = 1
  hg4 : gb.cells = []
  hne : cl ≠ ck
  hd : cl ≠ bk ∧ cl ≠ be ∧ ck ≠ bk ∧ ck ≠ be

theorem GkCells.kf {m mm : Mem} {bk be cl ck : Nat} {lb gb : Block} {ents : Ents} (hC : GkCells m bk be cl ck lb gb) (hK : KfMem m bk be ents)
    (hfr : ∀ b, b < m.length → b ≠ cl → b ≠ ck → mm[b]? = m[b]?) : KfMem mm bk be ents := by
  refine hK.frame (fun b => b = cl ∨ b = ck) (fun b hb hne => hfr b hb (fun h => hne (Or.inl h)) (fun h => hne (Or.inr h))) ?_ ?_ ?_
  · have := hC.hd; intro h; rcases h with h | h <;> omega
  · have := hC.hd; intro h; rcases h with h | h <;> omega
  · intro b s hb
    rcases hb with rfl | rfl
    · exact no_cstr hC.hcl hC.hl4 _
    · exact no_cstr hC.hck hC.hg4 _

/-- `if (length) *length = e` for a `size_t` value `n` -/
theorem gk_setlen (fuel : Nat) (e : Expr) (mm : Mem) (loc : List Val) (cl n : Nat) (lb : Block) (hl2 : loc[2]? = some (.ptr cl 0))
    (he : evalE e { mem := mm, loc := loc } = .ok (.int (n : Int), { mem := mm, loc := loc })) (hn : (n : Int) < 18446744073709551616)
    (hcl : mm[cl]? = some lb) (h1 : lb.live = true) (h2 : lb.writable = true) (h3 : lb.slots.length = 1) :
    exec fuel (gkSetLen e) { mem := mm, loc := loc } = .normal { mem := mm.set cl { lb with slots := [.int (n : Int)] }, loc := loc } := by
  unfold gkSetLen
  rw [exec_ite_true (testOf_ptr (evalE_var (ty := .ptr) (st := ⟨mm, loc⟩) hl2 (by simp))).2.1]
  exact cell_store fuel 2 e .u64 mm mm loc loc cl lb _ _ hl2 he (convert_u64_small _ (Int.natCast_nonneg _) hn) (by simp) hcl h1 h2 h3

/-- `free(v)` -/
theorem gk_free (fuel v : Nat) (mm : Mem) (loc : List Val) (b : Nat) (blk : Block) (hl : loc[v]? = some (.ptr b 0)) (h1 : mm[b]? = some blk)
    (h2 : blk.live = true) :
    exec fuel (gkFree v) { mem := mm, loc := loc } = .normal { mem := mm.set b { blk with live := false }, loc := loc } :=
  exec_free_var fuel v mm loc b blk hl h1 h2

/-- `n = kf->length` -/
theorem gk_getlen (fuel : Nat) (mm : Mem) (loc : List Val) (bk be : Nat) (ents : Ents) (hK : KfMem mm bk be ents) (hl0 : loc[0]? = some (.ptr bk 0))
    (h7 : 7 < loc.length) (hsmall : (ents.length : Int) < 18446744073709551616) :
    exec fuel (.expr (.assign (.var 7) gkKfLen .u64)) { mem := mm, loc := loc } = .normal { mem := mm, loc := loc.set 7 (.int (ents.length : Int)) } :=
  exec_assign_var (E := gkKfLen) (st' := { mem := mm, loc := loc }) (hK.evalLen hl0) (convert_u64_small _ (Int.natCast_nonneg _) hsmall) h7

/-- `uniques = calloc(n, sizeof(bool))`, the allocation -/
theorem gk_malloc (fuel : Nat) (mm : Mem) (loc : List Val) (n : Nat) (hl7 : loc[7]? = some (.int (n : Int))) (h6 : 6 < loc.length)
    (hn : (n : Int) < 18446744073709551616) :
    exec fuel (.expr (.assign (.var 6) (.call "malloc" (.cons (.bin .mul (.load (.var 7) .u64) (.lit 1 .u64) .u64) .nil)) .ptr)) { mem := mm, loc := loc } =
      .normal { mem := (mm.alloc n).1, loc := loc.set 6 (.ptr mm.length 0) } := by
  have hw : wrapTo .u64 ((n : Int) * 1) = (n : Int) := by rw [Int.mul_one]; exact wrapTo_u64_small _ (by omega) hn
  have e : (mm.alloc n) = ((mm.alloc n).1, mm.length) := by rw [← (alloc_spec mm n).1]
  simp only [mc_exec, mc_eval, hl7, binop, cmpInt, arith_u64, hw, builtin_malloc, Int.toNat_natCast]
  rw [e]
  simp [mc_eval, convert, h6]

/-- `*keys = calloc(n, sizeof(char *))`, the allocation: a new last block of `n` words -/
theorem gk_malloc_words (fuel : Nat) (mm : Mem) (loc : List Val) (ck n : Nat) (gb : Block) (hl3 : loc[3]? = some (.ptr ck 0))
    (hl10 : loc[10]? = some (.int (n : Int))) (hn : (n : Int) < 18446744073709551616)
    (hck : mm[ck]? = some gb) (h1 : gb.live = true) (h2 : gb.writable = true) (h3 : gb.slots.length = 1) :
    exec fuel (.expr (.assign (.slot (.load (.var 3) .ptr) 0) (.call "malloc_words" (.cons (.bin .mul (.load (.var 10) .u64) (.lit 1 .u64) .u64) .nil)) .ptr))
        { mem := mm, loc := loc } =
      .normal { mem := (mm ++ [({ cells := [], slots := List.replicate n .undef } : Block)]).set ck { gb with slots := [.ptr mm.length 0] }, loc := loc } := by
  have hw : wrapTo .u64 ((n : Int) * 1) = (n : Int) := by rw [Int.mul_one]; exact wrapTo_u64_small _ (by omega) hn
  have he : evalE (.call "malloc_words" (.cons (.bin .mul (.load (.var 10) .u64) (.lit 1 .u64) .u64) .nil)) { mem := mm, loc := loc } =
      .ok (.ptr mm.length 0, { mem := mm ++ [({ cells := [], slots := List.replicate n .undef } : Block)], loc := loc }) := by
    simp only [mc_eval, hl10, binop, cmpInt, arith_u64, hw, (alloc_words_spec mm (n : Int)).1, Int.toNat_natCast]
  exact cell_store fuel 3 _ .ptr mm (mm ++ [({ cells := [], slots := List.replicate n .undef } : Block)]) loc loc ck gb _ _ hl3 he rfl (by simp) (by rw [List.getElem?_append_left (List.getElem?_eq_some_iff.1 hck).1]; exact hck) h1 h2 h3

/-- the part of `econf_getKeys` up to and including `free(group)`: `*length = 0`, the flags and the count are computed -/
theorem gk_prefix (fuel : Nat) (m : Mem) (bk be cl ck : Nat) (lb gb : Block) (ents : Ents) (gv : Val) (g : Option (List UInt8))
    (u4 u5 u6 u7 u8 u9 u10 u11 u12 u13 : Val)
    (hK : KfMem m bk be ents) (hC : GkCells m bk be cl ck lb gb) (hg : StrArg m gv g)
    (hsmall : (ents.length : Int) + 2 < 18446744073709551616) (hf : ents.length + 1 < fuel) :
    ∃ mP gbk ub, exec fuel LeafFns.econf_getKeys.body { mem := m, loc := [.ptr bk 0, gv, .ptr cl 0, .ptr ck 0, u4, u5, u6, u7, u8, u9, u10, u11, u12, u13] } =
        exec fuel gkTail { mem := mP, loc := [.ptr bk 0, gv, .ptr cl 0, .ptr ck 0, .int (gkCount ents (grpOf g) : Int), .ptr gbk 0, .ptr ub 0,
          .int (ents.length : Int), .int (ents.length : Int), .int (ents.length : Int), u10, u11, u12, u13] } ∧
      m.length ≤ ub ∧ MemBytes mP ub (gkFlags ents (grpOf g)) ∧
      mP[cl]? = some { lb with slots := [.int 0] } ∧ (∀ b, b < m.length → b ≠ cl → mP[b]? = m[b]?) := by
  have hclt : cl < m.length := (List.getElem?_eq_some_iff.1 hC.hcl).1
  have hs1 : (ents.length : Int) + 1 < 18446744073709551616 := by omega
  have hs0 : (ents.length : Int) < 18446744073709551616 := by omega
  have hf1 : ents.length < fuel := by omega
  -- *length = 0
  obtain ⟨m1, hm1⟩ : ∃ m1 : Mem, m1 = m.set cl { lb with slots := [.int ((0 : Nat) : Int)] } := ⟨_, rfl⟩
  have hm1cl : m1[cl]? = some { lb with slots := [.int 0] } := by rw [hm1, List.getElem?_set_self hclt]; rfl
  have hm1fr : ∀ b, b ≠ cl → m1[b]? = m[b]? := fun b hb => by rw [hm1, set_other hb]
  have hm1len : m1.length = m.length := by rw [hm1, List.length_set]
  have hg1 : StrArg m1 gv g := by
    cases hg with
    | null => exact .null
    | str b s h =>
      refine .str b s ?_
      rw [cstr_congr (hm1fr b (fun hb => by subst hb; exact no_cstr hC.hcl hC.hl4 _ h))]; exact h
  obtain ⟨m2, gbk, hS3, hgbk, hm2g, hm2fr, _⟩ := fk_grp 5 m1 [.ptr bk 0, gv, .ptr cl 0, .ptr ck 0, .int ((0 : Nat) : Int), u5, u6, u7, u8, u9, u10, u11, u12, u13] gv g hg1 rfl (by simp) fuel
  rw [hm1len] at hgbk hm2fr
  have hgbklt : gbk < m2.length := hm2g.lt_length
  have hfr2 : ∀ b, b < m.length → b ≠ cl → m2[b]? = m[b]? := fun b hb hne => by rw [hm2fr b hb, hm1fr b hne]
  have hK2 : KfMem m2 bk be ents := hC.kf hK (fun b hb h1 _ => hfr2 b hb h1)
  -- uniques = calloc(n, sizeof(bool))
  obtain ⟨_, a2, a3, a4⟩ := alloc_spec m2 ents.length
  have hubm : m.length ≤ m2.length := Nat.le_trans hgbk (Nat.le_of_lt hgbklt)
  have hgu : gbk ≠ m2.length := Nat.ne_of_lt hgbklt
  obtain ⟨m4, hZ, hm4u, hm4len, hm4fr⟩ := zero_bytes_loop fuel (m2.alloc ents.length).1
    [.ptr bk 0, gv, .ptr cl 0, .ptr ck 0, .int ((0 : Nat) : Int), .ptr gbk 0, .ptr m2.length 0, .int (ents.length : Int), u8, u9, u10, u11, u12, u13]
    6 8 7 m2.length ents.length rfl rfl (by simp) (by decide) (by decide) a2 hs1 hf1
  have hg4 : m4.cstr gbk 0 = .ok (grpOf g) := by
    rw [cstr_congr ((hm4fr gbk hgu).trans (a4 gbk hgbklt))]
    exact hm2g.cstr0 (rest := []) hg.grp_nz
  obtain ⟨m5, hM, hm5u, hm5len, hm5fr⟩ := mark_loop fuel m2 m4
    [.ptr bk 0, gv, .ptr cl 0, .ptr ck 0, .int ((0 : Nat) : Int), .ptr gbk 0, .ptr m2.length 0, .int (ents.length : Int), .int (ents.length : Int), u9, u10, u11, u12, u13]
    bk be gbk m2.length ents (grpOf g) hK2 (fun b hb => by rw [hm4fr b (Nat.ne_of_lt hb), a4 b hb]) (Nat.le_refl _) hg4 hgu rfl rfl rfl (by simp) hm4u hs1 hf1
  -- free(group)
  have hm5o : ∀ b, b < m2.length → m5[b]? = m2[b]? := fun b hb => by rw [hm5fr b (Nat.ne_of_lt hb), hm4fr b (Nat.ne_of_lt hb), a4 b hb]
  obtain ⟨gblk, hgb1, hgb2, _, _⟩ := hm2g.blk
  refine ⟨m5.set gbk { gblk with live := false }, gbk, m2.length, ?_, hubm, hm5u.of_block_eq (set_other (Ne.symm hgu)), ?_, fun b hb hne => ?_⟩
  · simp only [List.set] at hS3 hZ hM
    rw [econf_getKeys_shape, exec_seq_normal (gk_setlen fuel gkU64_0 m _ cl 0 lb rfl (evalE_u64_zero _) (by decide) hC.hcl hC.hl1 hC.hl2 hC.hl3), ← hm1,
      exec_seq_normal (exec_ite_skip (testOf_ptr (evalE_var (v := 0) (ty := .ptr) (st := ⟨m1, _⟩) rfl (by simp))).2.2), exec_seq_normal (u64_zero fuel 4 _ _ (by simp))]
    simp only [List.set]
    rw [exec_seq_normal hS3, exec_seq_normal (exec_ite_null_skip fuel 5 gbk _ _ _ rfl), exec_seq_normal (gk_getlen fuel m2 _ bk be ents hK2 rfl (by simp) hs0)]
    simp only [List.set]
    rw [exec_seq_normal (gk_malloc fuel m2 _ ents.length rfl (by simp) hs0)]
    simp only [List.set]
    rw [exec_seq_normal (u64_zero fuel 8 _ _ (by simp))]
    simp only [List.set]
    rw [exec_seq_normal hZ, exec_seq_normal (exec_ite_null_skip fuel 6 m2.length _ _ _ rfl), exec_seq_normal (u64_zero fuel 9 _ _ (by simp))]
    simp only [List.set]
    rw [exec_seq_normal hM, exec_seq_normal (gk_free fuel 5 m5 _ gbk gblk rfl (by rw [hm5o gbk hgbklt]; exact hgb1) hgb2)]
  · rw [set_other (Nat.ne_of_lt (Nat.lt_of_lt_of_le hclt hgbk)), hm5o cl (Nat.lt_of_lt_of_le hclt hubm), hm2fr cl hclt]; exact hm1cl
  · rw [set_other (Nat.ne_of_lt (Nat.lt_of_lt_of_le hb hgbk)), hm5o b (Nat.lt_of_lt_of_le hb hubm)]; exact hfr2 b hb hne

/-- `kf == NULL`: ECONF_ERROR after `*length = 0` -/
theorem C_econf_getKeys_null_kf (fuel : Nat) (m : Mem) (cl : Nat) (lb : Block) (gv : Val) (rest : List Val)
    (hcl : m[cl]? = some lb) (hl1 : lb.live = true) (hl2 : lb.writable = true) (hl3 : lb.slots.length = 1) :
    exec fuel LeafFns.econf_getKeys.body { mem := m, loc := .null :: gv :: .ptr cl 0 :: rest } =
      .ret (.int 1) { mem := m.set cl { lb with slots := [.int 0] }, loc := .null :: gv :: .ptr cl 0 :: rest } := by
  rw [econf_getKeys_shape, exec_seq_normal (gk_setlen fuel gkU64_0 m _ cl 0 lb rfl (evalE_u64_zero _) (by decide) hcl hl1 hl2 hl3)]
  exact exec_seq_ret (by
    rw [exec_ite_true (testOf_null (evalE_var (v := 0) (ty := .ptr) (st := ⟨_, .null :: gv :: .ptr cl 0 :: rest⟩) (w := .null) rfl (by simp))).2]
    exact exec_ret_u32 fuel 1 (by omega) (by omega) _)

/-- no entry of the group: ECONF_NOKEY; `*length` is 0, everything else of the caller as before (the temporary blocks are gone) -/
theorem C_econf_getKeys_nokey (fuel : Nat) (m : Mem) (bk be cl ck : Nat) (lb gb : Block) (ents : Ents) (gv : Val) (g : Option (List UInt8))
    (u4 u5 u6 u7 u8 u9 u10 u11 u12 u13 : Val)
    (hK : KfMem m bk be ents) (hC : GkCells m bk be cl ck lb gb) (hg : StrArg m gv g)
    (hnone : gkCount ents (grpOf g) = 0)
    (hsmall : (ents.length : Int) + 2 < 18446744073709551616) (hf : ents.length + 1 < fuel) :
    ∃ m' loc', exec fuel LeafFns.econf_getKeys.body { mem := m, loc := [.ptr bk 0, gv, .ptr cl 0, .ptr ck 0, u4, u5, u6, u7, u8, u9, u10, u11, u12, u13] } =
        .ret (.int 5) { mem := m', loc := loc' } ∧
      m'[cl]? = some { lb with slots := [.int 0] } ∧ (∀ b, b < m.length → b ≠ cl → m'[b]? = m[b]?) := by
  obtain ⟨mP, gbk, ub, hex, hub, hfl, hcl, hfr⟩ := gk_prefix fuel m bk be cl ck lb gb ents gv g u4 u5 u6 u7 u8 u9 u10 u11 u12 u13 hK hC hg hsmall hf
  rw [hnone] at hex
  have hclt : cl < m.length := (List.getElem?_eq_some_iff.1 hC.hcl).1
  obtain ⟨blk, b1, b2, _, _⟩ := hfl.blk
  have ht : ∀ loc : List Val, loc[4]? = some (.int ((0 : Nat) : Int)) →
      testOf (some (.un .lnot (.load (.var 4) .u64) .i32)) { mem := mP, loc := loc } = .ok (true, { mem := mP, loc := loc }) := fun loc h4 => by
    simp [mc_eval, testOf, h4, unop, truth, boolVal]
  refine ⟨mP.set ub { blk with live := false }, [.ptr bk 0, gv, .ptr cl 0, .ptr ck 0, .int ((0 : Nat) : Int), .ptr gbk 0, .ptr ub 0,
    .int (ents.length : Int), .int (ents.length : Int), .int (ents.length : Int), u10, u11, u12, u13], ?_, ?_, fun b hb hne => ?_⟩
  · rw [hex]; unfold gkTail
    exact exec_seq_ret (by rw [exec_ite_true (ht _ rfl), exec_seq_normal (gk_free fuel 6 mP _ ub blk rfl b1 b2)]; exact exec_ret_u32 fuel 5 (by omega) (by omega) _)
  · rw [set_other (Nat.ne_of_lt (Nat.lt_of_lt_of_le hclt hub))]; exact hcl
  · rw [set_other (Nat.ne_of_lt (Nat.lt_of_lt_of_le hb hub))]; exact hfr b hb hne

/-- `gkTail` up to the copying loop: `*keys` points at a new array (block `mP.length`) of `cnt + 1` NULLs -/
theorem gk_alloc (fuel : Nat) (mP : Mem) (ck : Nat) (gb : Block) (cnt : Nat) (v0 v1 v2 v5 v6 v7 v8 v9 u10 u11 u12 u13 : Val)
    (hck : mP[ck]? = some gb) (hg1 : gb.live = true) (hg2 : gb.writable = true) (hg3 : gb.slots.length = 1)
    (hcnt0 : cnt ≠ 0) (hsmall : (cnt : Int) + 2 < 18446744073709551616) (hf : cnt + 1 < fuel) :
    ∃ m9, exec fuel gkTail { mem := mP, loc := [v0, v1, v2, .ptr ck 0, .int (cnt : Int), v5, v6, v7, v8, v9, u10, u11, u12, u13] } =
        exec fuel (.seq gkCopyLoop (.seq (gkSetLen (.load (.var 4) .u64)) (.seq (gkFree 6) (gkRet 0))))
          { mem := m9, loc := [v0, v1, v2, .ptr ck 0, .int (cnt : Int), v5, v6, v7, v8, v9, .int ((cnt + 1 : Nat) : Int), .int ((cnt + 1 : Nat) : Int),
            .int ((0 : Nat) : Int), .int ((0 : Nat) : Int)] } ∧
      m9.length = mP.length + 1 ∧ m9[ck]? = some { gb with slots := [.ptr mP.length 0] } ∧
      m9[mP.length]? = some { cells := [], slots := List.replicate (cnt + 1) .null } ∧ ∀ b, b < mP.length → b ≠ ck → m9[b]? = mP[b]? := by
  have hcklt : ck < mP.length := (List.getElem?_eq_some_iff.1 hck).1
  have hs1 : ((cnt + 1 : Nat) : Int) < 18446744073709551616 := by omega
  have hs2 : ((cnt + 1 : Nat) : Int) + 1 < 18446744073709551616 := by omega
  -- num != 0
  have hT1 : exec fuel (.ite (.un .lnot (.load (.var 4) .u64) .i32) (.seq (gkFree 6) (gkRet 5)) .skip)
      { mem := mP, loc := [v0, v1, v2, .ptr ck 0, .int (cnt : Int), v5, v6, v7, v8, v9, u10, u11, u12, u13] } =
      .normal { mem := mP, loc := [v0, v1, v2, .ptr ck 0, .int (cnt : Int), v5, v6, v7, v8, v9, u10, u11, u12, u13] } := by
    have hc : ¬ ((cnt : Int) = 0) := by omega
    exact exec_ite_skip (by simp [mc_eval, testOf, unop, truth, boolVal, hcnt0])
  -- n = num + 1
  have hT2 : exec fuel (.expr (.assign (.var 10) (.bin .add (.load (.var 4) .u64) (.cast .u64 (.lit 1 .i32)) .u64) .u64))
      { mem := mP, loc := [v0, v1, v2, .ptr ck 0, .int (cnt : Int), v5, v6, v7, v8, v9, u10, u11, u12, u13] } =
      .normal { mem := mP, loc := [v0, v1, v2, .ptr ck 0, .int (cnt : Int), v5, v6, v7, v8, v9, .int ((cnt + 1 : Nat) : Int), u11, u12, u13] } := by
    have hw : wrapTo .u64 ((cnt : Int) + 1) = (cnt : Int) + 1 := wrapTo_u64_small _ (by omega) (by omega)
    simp [mc_exec, mc_eval, convert, w64_one, binop, cmpInt, arith_u64, hw]
  -- *keys = calloc(n, sizeof(char *))
  obtain ⟨m8, hm8⟩ : ∃ m8 : Mem, m8 = (mP ++ [({ cells := [], slots := List.replicate (cnt + 1) .undef } : Block)]).set ck { gb with slots := [.ptr mP.length 0] } := ⟨_, rfl⟩
  have hT3 := gk_malloc_words fuel mP [v0, v1, v2, .ptr ck 0, .int (cnt : Int), v5, v6, v7, v8, v9, .int ((cnt + 1 : Nat) : Int), u11, u12, u13] ck (cnt + 1) gb
    rfl rfl hs1 hck hg1 hg2 hg3
  rw [← hm8] at hT3
  have hm8ck : m8[ck]? = some { gb with slots := [.ptr mP.length 0] } := by
    rw [hm8, List.getElem?_set_self (by rw [List.length_append]; exact Nat.lt_succ_of_lt hcklt)]
  have hm8a : m8[mP.length]? = some { cells := [], slots := List.replicate (cnt + 1) .undef } := by
    rw [hm8, set_other (Nat.ne_of_gt hcklt)]; simp
  have hm8fr : ∀ b, b < mP.length → b ≠ ck → m8[b]? = mP[b]? := fun b hb hne => by
    rw [hm8, set_other hne, List.getElem?_append_left hb]
  obtain ⟨m9, hZ, hm9a, hm9len, hm9fr⟩ := zero_words_loop fuel m8
    [v0, v1, v2, .ptr ck 0, .int (cnt : Int), v5, v6, v7, v8, v9, .int ((cnt + 1 : Nat) : Int), u11, u12, u13]
    3 11 10 ck mP.length (cnt + 1) gb rfl rfl (by simp) (by decide) (by decide) hm8ck hg1 hm8a (Nat.ne_of_lt hcklt) hs2 hf
  have hm9ck : m9[ck]? = some { gb with slots := [.ptr mP.length 0] } := by rw [hm9fr ck (Nat.ne_of_lt hcklt)]; exact hm8ck
  refine ⟨m9, ?_, by rw [hm9len, hm8]; simp, hm9ck, hm9a, fun b hb hne => by rw [hm9fr b (Nat.ne_of_lt hb), hm8fr b hb hne]⟩
  simp only [List.set] at hZ
  unfold gkTail gkKeysArr
  rw [exec_seq_normal hT1, exec_seq_normal hT2, exec_seq_normal hT3, exec_seq_normal (u64_zero fuel 11 _ _ (by simp))]
  simp only [List.set]
  rw [exec_seq_normal hZ, exec_seq_normal (exec_ite_skip (testOf_ptr (cell_load 3 .ptr m9 _ ck gb _ rfl hm9ck hg1 (by simp))).1),
    exec_seq_normal (u64_zero fuel 12 _ _ (by simp))]
  simp only [List.set]
  rw [exec_seq_normal (u64_zero fuel 13 _ _ (by simp))]
  simp only [List.set]

/-- `econf_getKeys` on an object with at least one entry of the group: success; the caller finds the count in `*length` and in `*keys` a fresh
    NULL-terminated array of fresh copies of the keys of the group's entries, in the order of the entry array (`GgOut`, as for `econf_getGroups`);
    every other block of the caller is unchanged -/
theorem C_econf_getKeys (fuel : Nat) (m : Mem) (bk be cl ck : Nat) (lb gb : Block) (ents : Ents) (gv : Val) (g : Option (List UInt8))
    (u4 u5 u6 u7 u8 u9 u10 u11 u12 u13 : Val)
    (hK : KfMem m bk be ents) (hC : GkCells m bk be cl ck lb gb) (hg : StrArg m gv g)
    (hsome : gkCount ents (grpOf g) ≠ 0)
    (hsmall : (ents.length : Int) + 2 < 18446744073709551616) (hf : ents.length + 2 < fuel) :
    ∃ (m' : Mem) (loc' : List Val) (res : List (Nat × List UInt8)),
      exec fuel LeafFns.econf_getKeys.body { mem := m, loc := [.ptr bk 0, gv, .ptr cl 0, .ptr ck 0, u4, u5, u6, u7, u8, u9, u10, u11, u12, u13] } =
        .ret (.int 0) { mem := m', loc := loc' } ∧
      res.map (·.2) = gkKeys ents (grpOf g) ∧ res ≠ [] ∧ GgOut m cl ck lb gb m' res := by
  obtain ⟨cnt, hcnt⟩ : ∃ cnt, cnt = gkCount ents (grpOf g) := ⟨_, rfl⟩
  have hcntn : cnt ≤ ents.length := hcnt ▸ gkCount_le ents (grpOf g)
  have hf1 : ents.length + 1 < fuel := by omega
  have hf0 : ents.length < fuel := by omega
  have hcf : cnt + 1 < fuel := by omega
  have hs1 : (ents.length : Int) + 1 < 18446744073709551616 := by omega
  have hc2 : (cnt : Int) + 2 < 18446744073709551616 := by omega
  have hc0 : (cnt : Int) < 18446744073709551616 := by omega
  obtain ⟨mP, gbk, ub, hex, hub, hfl, hcl, hfr⟩ := gk_prefix fuel m bk be cl ck lb gb ents gv g u4 u5 u6 u7 u8 u9 u10 u11 u12 u13 hK hC hg hsmall hf1
  rw [← hcnt] at hex hsome
  have hclt : cl < m.length := (List.getElem?_eq_some_iff.1 hC.hcl).1
  have hcklt : ck < m.length := (List.getElem?_eq_some_iff.1 hC.hck).1
  have hbklt : bk < m.length := by obtain ⟨_, k1, _⟩ := hK.kf; exact (List.getElem?_eq_some_iff.1 k1).1
  have hbelt : be < m.length := by obtain ⟨_, k1, _⟩ := hK.arr; exact (List.getElem?_eq_some_iff.1 k1).1
  have hne := hC.hne
  have hublt : ub < mP.length := hfl.lt_length
  have hmP : m.length ≤ mP.length := Nat.le_trans hub (Nat.le_of_lt hublt)
  have hubcl : ub ≠ cl := Nat.ne_of_gt (Nat.lt_of_lt_of_le hclt hub)
  have hubck : ub ≠ ck := Nat.ne_of_gt (Nat.lt_of_lt_of_le hcklt hub)
  obtain ⟨m9, hal, hm9len, hm9ck, hm9a, hm9fr⟩ := gk_alloc fuel mP ck gb cnt (.ptr bk 0) gv (.ptr cl 0) (.ptr gbk 0) (.ptr ub 0)
    (.int (ents.length : Int)) (.int (ents.length : Int)) (.int (ents.length : Int)) u10 u11 u12 u13
    (by rw [hfr ck hcklt (Ne.symm hne)]; exact hC.hck) hC.hg1 hC.hg2 hC.hg3 hsome hc2 hcf
  have hm9P : mP.length ≤ m9.length := by rw [hm9len]; exact Nat.le_succ _
  have hfr9 : ∀ b, b < m.length → b ≠ cl → b ≠ ck → m9[b]? = m[b]? := fun b hb h1 h2 => by
    rw [hm9fr b (Nat.lt_of_lt_of_le hb hmP) h2]; exact hfr b hb h1
  obtain ⟨m10, res, hCp, hres, hlen10, hfr10, hm10a, hstr⟩ := copy_loop fuel m9
    [.ptr bk 0, gv, .ptr cl 0, .ptr ck 0, .int (cnt : Int), .ptr gbk 0, .ptr ub 0, .int (ents.length : Int), .int (ents.length : Int), .int (ents.length : Int),
      .int ((cnt + 1 : Nat) : Int), .int ((cnt + 1 : Nat) : Int), u12, u13]
    bk be ck ub mP.length gb ents (grpOf g) (hC.kf hK hfr9) (Nat.ne_of_gt (Nat.lt_of_lt_of_le hbklt hmP)) (Nat.ne_of_gt (Nat.lt_of_lt_of_le hbelt hmP))
    hm9ck hC.hg1 (Nat.ne_of_lt (Nat.lt_of_lt_of_le hcklt hmP)) (hfl.of_block_eq (hm9fr ub hublt hubck)) (Nat.ne_of_lt hublt) (by rw [← hcnt]; exact hm9a) rfl rfl rfl (by simp)
    hs1 hf0
  rw [← hcnt] at hCp
  have hrl : res.length = cnt := by
    have := congrArg List.length hres
    simpa [gkKeys_length, ← hcnt] using this
  have hres0 : res ≠ [] := fun h => by rw [h] at hrl; exact hsome hrl.symm
  -- *length = num; free(uniques)
  have hm10o : ∀ b, b < mP.length → m10[b]? = m9[b]? := fun b hb => hfr10 b (Nat.lt_of_lt_of_le hb hm9P) (Nat.ne_of_lt hb)
  have hm10cl : m10[cl]? = some { lb with slots := [.int 0] } := by
    rw [hm10o cl (Nat.lt_of_lt_of_le hclt hmP), hm9fr cl (Nat.lt_of_lt_of_le hclt hmP) hne]; exact hcl
  obtain ⟨m11, hm11⟩ : ∃ m11 : Mem, m11 = m10.set cl { lb with slots := [.int (cnt : Int)] } := ⟨_, rfl⟩
  have hT10 := gk_setlen fuel (.load (.var 4) .u64) m10
    [.ptr bk 0, gv, .ptr cl 0, .ptr ck 0, .int (cnt : Int), .ptr gbk 0, .ptr ub 0, .int (ents.length : Int), .int (ents.length : Int), .int (ents.length : Int),
      .int ((cnt + 1 : Nat) : Int), .int ((cnt + 1 : Nat) : Int), .int (ents.length : Int), .int (cnt : Int)]
    cl cnt { lb with slots := [.int 0] } rfl (evalE_var (v := 4) (ty := .u64) (st := ⟨_, _⟩) rfl (by simp)) hc0 hm10cl hC.hl1 hC.hl2 rfl
  rw [← hm11] at hT10
  obtain ⟨ublk, u1, u2, _, _⟩ := hfl.blk
  have hu11 : m11[ub]? = some ublk := by
    rw [hm11, set_other hubcl, hm10o ub hublt, hm9fr ub hublt hubck]; exact u1
  have hm12 : ∀ b, b ≠ cl → b ≠ ub → (m11.set ub { ublk with live := false })[b]? = m10[b]? := fun b h1 h2 => by
    rw [set_other h2, hm11, set_other h1]
  refine ⟨m11.set ub { ublk with live := false }, [.ptr bk 0, gv, .ptr cl 0, .ptr ck 0, .int (cnt : Int), .ptr gbk 0, .ptr ub 0, .int (ents.length : Int),
      .int (ents.length : Int), .int (ents.length : Int), .int ((cnt + 1 : Nat) : Int), .int ((cnt + 1 : Nat) : Int), .int (ents.length : Int), .int (cnt : Int)],
    res, ?_, hres, hres0,
    ⟨by rw [List.length_set, hm11, List.length_set]; exact Nat.le_trans hmP (Nat.le_trans hm9P hlen10), fun b hb h1 h2 => ?_, ?_, Or.inr ⟨hres0, mP.length, hmP, ?_, ?_⟩, fun e he => ?_⟩⟩
  · simp only [List.set] at hCp
    rw [hex, hal, exec_seq_normal hCp, exec_seq_normal hT10, exec_seq_normal (gk_free fuel 6 m11 _ ub ublk rfl hu11 u2)]
    exact exec_ret_u32 fuel 0 (Int.le_refl 0) (by decide) _
  · rw [hm12 b h1 (Nat.ne_of_lt (Nat.lt_of_lt_of_le hb hub)), hm10o b (Nat.lt_of_lt_of_le hb hmP)]; exact hfr9 b hb h1 h2
  · rw [set_other (Ne.symm hubcl), hm11, List.getElem?_set_self (Nat.lt_of_lt_of_le hclt (Nat.le_trans hmP (Nat.le_trans hm9P hlen10))), hrl]
  · rw [hm12 ck (Ne.symm hne) (Ne.symm hubck), hm10o ck (Nat.lt_of_lt_of_le hcklt hmP)]; exact hm9ck
  · rw [hm12 mP.length (Nat.ne_of_gt (Nat.lt_of_lt_of_le hclt hmP)) (Nat.ne_of_gt hublt)]; exact hm10a
  · obtain ⟨s1, s2⟩ := hstr e he
    have hme : mP.length ≤ e.1 := Nat.le_trans hm9P s1
    refine ⟨Nat.le_trans hmP hme, ?_⟩
    rw [cstr_congr (hm12 e.1 (Nat.ne_of_gt (Nat.lt_of_lt_of_le (Nat.lt_of_lt_of_le hclt hmP) hme)) (Nat.ne_of_gt (Nat.lt_of_lt_of_le hublt hme)))]; exact s2

theorem gkKeys_model (es : List Econf.Entry) (nm : List UInt8) :
    gkKeys (entsOf es) nm = (es.filter (fun e => e.group == nm)).map (·.key) := by
  unfold gkKeys entsOf
  induction es with
  | nil => rfl
  | cons e es ih =>
    simp only [List.map_cons, List.filter_cons]
    by_cases h : e.group = nm
    · have hb : (e.group == nm) = true := by simpa using h
      have hd : decide (e.group = nm) = true := by simpa using h
      simp only [hb, hd, if_true, List.map_cons, ih]
    · have hb : (e.group == nm) = false := by simpa using h
      have hd : decide (e.group = nm) = false := by simpa using h
      simp only [hb, hd, Bool.false_eq_true, if_false, ih]

/-- `Econf.getKeys` in terms of what the C function computes: ECONF_NOKEY when no entry has the group, the keys of its entries otherwise -/
theorem getKeys_model (kf : Econf.KeyFile) (g : Option (List UInt8)) :
    Econf.getKeys kf g = if gkCount (entsOf kf.entries) (grpOf g) = 0 then .error .nokey else .ok (gkKeys (entsOf kf.entries) (grpOf g)) := by
  have hl := gkKeys_length (entsOf kf.entries) (grpOf g)
  unfold Econf.getKeys
  dsimp only
  rw [← grpOf_eq, ← gkKeys_model]
  by_cases h : gkCount (entsOf kf.entries) (grpOf g) = 0
  · have : gkKeys (entsOf kf.entries) (grpOf g) = [] := List.length_eq_zero_iff.1 (by rw [hl, h])
    simp [h, this]
  · have : gkKeys (entsOf kf.entries) (grpOf g) ≠ [] := fun h0 => h (by rw [← hl, h0]; rfl)
    simp [h, this]

/-- `C_econf_getKeys` against the model: when `Econf.getKeys` delivers keys, the C function succeeds and delivers the same list -/
theorem C_econf_getKeys_model (kf : Econf.KeyFile) (ks : List (List UInt8)) (fuel : Nat) (m : Mem) (bk be cl ck : Nat) (lb gb : Block) (gv : Val) (g : Option (List UInt8))
    (u4 u5 u6 u7 u8 u9 u10 u11 u12 u13 : Val)
    (hK : KfMem m bk be (entsOf kf.entries)) (hC : GkCells m bk be cl ck lb gb) (hg : StrArg m gv g)
    (hmodel : Econf.getKeys kf g = .ok ks)
    (hsmall : (kf.entries.length : Int) + 2 < 18446744073709551616) (hf : kf.entries.length + 2 < fuel) :
    ∃ (m' : Mem) (loc' : List Val) (res : List (Nat × List UInt8)),
      exec fuel LeafFns.econf_getKeys.body { mem := m, loc := [.ptr bk 0, gv, .ptr cl 0, .ptr ck 0, u4, u5, u6, u7, u8, u9, u10, u11, u12, u13] } =
        .ret (.int 0) { mem := m', loc := loc' } ∧
      res.map (·.2) = ks ∧ res ≠ [] ∧ GgOut m cl ck lb gb m' res := by
  rw [getKeys_model] at hmodel
  by_cases h : gkCount (entsOf kf.entries) (grpOf g) = 0
  · simp [h] at hmodel
  · simp only [h, if_false] at hmodel
    injection hmodel with hmodel
    have hl : (entsOf kf.entries).length = kf.entries.length := by simp [entsOf]
    obtain ⟨m', loc', res, h1, h2, h3, h4⟩ := C_econf_getKeys fuel m bk be cl ck lb gb (entsOf kf.entries) gv g u4 u5 u6 u7 u8 u9 u10 u11 u12 u13 hK hC hg h
      (by rw [hl]; exact hsmall) (by rw [hl]; exact hf)
    exact ⟨m', loc', res, h1, by rw [h2, hmodel], h3, h4⟩

/-- … and when `Econf.getKeys` reports ECONF_NOKEY so does the C function -/
theorem C_econf_getKeys_nokey_model (kf : Econf.KeyFile) (fuel : Nat) (m : Mem) (bk be cl ck : Nat) (lb gb : Block) (gv : Val) (g : Option (List UInt8))
    (u4 u5 u6 u7 u8 u9 u10 u11 u12 u13 : Val)
    (hK : KfMem m bk be (entsOf kf.entries)) (hC : GkCells m bk be cl ck lb gb) (hg : StrArg m gv g)
    (hmodel : Econf.getKeys kf g = .error .nokey)
    (hsmall : (kf.entries.length : Int) + 2 < 18446744073709551616) (hf : kf.entries.length + 1 < fuel) :
    ∃ m' loc', exec fuel LeafFns.econf_getKeys.body { mem := m, loc := [.ptr bk 0, gv, .ptr cl 0, .ptr ck 0, u4, u5, u6, u7, u8, u9, u10, u11, u12, u13] } =
        .ret (.int 5) { mem := m', loc := loc' } ∧
      m'[cl]? = some { lb with slots := [.int 0] } ∧ (∀ b, b < m.length → b ≠ cl → m'[b]? = m[b]?) := by
  rw [getKeys_model] at hmodel
  by_cases h : gkCount (entsOf kf.entries) (grpOf g) = 0
  · have hl : (entsOf kf.entries).length = kf.entries.length := by simp [entsOf]
    exact C_econf_getKeys_nokey fuel m bk be cl ck lb gb (entsOf kf.entries) gv g u4 u5 u6 u7 u8 u9 u10 u11 u12 u13 hK hC hg h
      (by rw [hl]; exact hsmall) (by rw [hl]; exact hf)
  · simp [h] at hmodel

end LeafKf

namespace LeafKf.Example

/-! A concrete caller's memory that meets every hypothesis of `C_econf_getKeys`: an object with the entries `[A] k1`, `[B] k2`, `[A] k3`, two
    uninitialised variables `size_t length; char **keys;` and the argument string `"A"`. -/

def gkMem : Mem := [
  /- 0, 1 group names -/ strBlock [65], strBlock [66],
  /- 2, 3, 4 keys -/ strBlock [107, 49], strBlock [107, 50], strBlock [107, 51],
  /- 5 the entry array -/ { cells := [], slots := [.ptr 0 0, .ptr 2 0, .null, .null, .null, .int 0, .int 0,
                                                     .ptr 1 0, .ptr 3 0, .null, .null, .null, .int 0, .int 0,
                                                     .ptr 0 0, .ptr 4 0, .null, .null, .null, .int 0, .int 0] },
  /- 6 the object -/ { cells := [], slots := [.ptr 5 0, .int 3, .int 3, .int 61, .int 35, .int 0, .null, .int 0, .int 0, .null, .int 0, .null, .int 0, .null, .int 0, .null] },
  /- 7 `length` -/ { cells := [], slots := [.undef] },
  /- 8 `keys` -/ { cells := [], slots := [.undef] },
  /- 9 the argument -/ strBlock [65]]

def gkEnts : Ents := [([65], [107, 49]), ([66], [107, 50]), ([65], [107, 51])]

theorem gk_ok : KfMem gkMem 6 5 gkEnts :=
  ⟨⟨_, rfl, rfl, rfl, rfl⟩, ⟨_, rfl, rfl, rfl, fun i hi => by
    have : i = 0 ∨ i = 1 ∨ i = 2 := by simp [gkEnts] at hi; omega
    rcases this with rfl | rfl | rfl
    · exact ⟨0, 2, rfl, rfl, rfl, rfl⟩
    · exact ⟨1, 3, rfl, rfl, rfl, rfl⟩
    · exact ⟨0, 4, rfl, rfl, rfl, rfl⟩⟩⟩

theorem gk_cells : GkCells gkMem 6 5 7 8 { cells := [], slots := [.undef] } { cells := [], slots := [.undef] } :=
  ⟨rfl, rfl, rfl, rfl, rfl, rfl, rfl, rfl, rfl, rfl, by decide, by decide⟩

/-- the call `econf_getKeys(kf, "A", &length, &keys)` in that memory: success, the keys `k1` and `k3` in fresh blocks behind a fresh array -/
theorem run_getKeys : ∃ m' loc' res,
    exec 10 LeafFns.econf_getKeys.body { mem := gkMem, loc := [.ptr 6 0, .ptr 9 0, .ptr 7 0, .ptr 8 0] ++ List.replicate 10 .undef } = .ret (.int 0) { mem := m', loc := loc' } ∧
    res.map (·.2) = [[107, 49], [107, 51]] ∧ GgOut gkMem 7 8 { cells := [], slots := [.undef] } { cells := [], slots := [.undef] } m' res ∧
    m'.loadSlot 7 0 = .ok (.int 2) := by
  obtain ⟨m', loc', res, hex, hres, hne, hO⟩ := C_econf_getKeys 10 gkMem 6 5 7 8 _ _ gkEnts (.ptr 9 0) (some [65]) .undef .undef .undef .undef .undef .undef .undef .undef .undef .undef
    gk_ok gk_cells (.str 9 [65] rfl) (by decide) (by decide) (by decide)
  have hk : gkKeys gkEnts (grpOf (some [65])) = [[107, 49], [107, 51]] := by decide
  rw [hk] at hres
  have hlen : res.length = 2 := by simpa using congrArg List.length hres
  have hcell := (hO.read rfl rfl).1
  rw [hlen] at hcell
  exact ⟨m', loc', res, hex, hres, hO, hcell⟩

/-- the same object asked for a group it does not have: ECONF_NOKEY -/
theorem run_getKeys_nokey : ∃ m' loc',
    exec 10 LeafFns.econf_getKeys.body { mem := gkMem, loc := [.ptr 6 0, .null, .ptr 7 0, .ptr 8 0] ++ List.replicate 10 .undef } = .ret (.int 5) { mem := m', loc := loc' } ∧
    m'.loadSlot 7 0 = .ok (.int 0) := by
  obtain ⟨m', loc', hex, hcl, _⟩ := C_econf_getKeys_nokey 10 gkMem 6 5 7 8 _ _ gkEnts .null none .undef .undef .undef .undef .undef .undef .undef .undef .undef .undef
    gk_ok gk_cells .null (by decide) (by decide) (by decide)
  exact ⟨m', loc', hex, by simpa using loadSlot_of (i := 0) hcl rfl (by simp) (by simp)⟩

end LeafKf.Example
