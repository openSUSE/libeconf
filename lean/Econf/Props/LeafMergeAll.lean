import Econf.Props.LeafMergeEx
import Econf.Props.C03
open MiniC Leaf LeafKf
namespace LeafKf

/-!
  The outer loop of `merge_existing_groups` (`mo_round`, `C_merge_existing_groups` = the model's `mergeExisting`) and the three calls
  `insert_nogroup`, `merge_existing_groups`, `add_new_groups` (lib/mergefiles.c) of `econf_mergeFiles` (lib/libeconf.c) in sequence: `C_merge3`, and
  `C_merge3_fresh` for the object `econf_mergeFiles` has just allocated; the array ends up holding the model's `mergeEntries`.
-/

/-- what one round of the outer loop of `merge_existing_groups` appends: the base entry with the override's value, and behind the
    last entry of a group the keys of that group which only the override defines -/
def meChunk (us es : List Econf.Entry) (i : Nat) : List Econf.Entry :=
  match us[i]? with
  | some u => Econf.overrideValue es u :: (if Econf.hasGroup (us.drop (i + 1)) u.group then [] else Econf.newKeysOf us es u.group)
  | none => []

def meUpTo (us es : List Econf.Entry) (i : Nat) : List Econf.Entry := (List.range i).flatMap (meChunk us es)

theorem meUpTo_succ (us es : List Econf.Entry) (i : Nat) : meUpTo us es (i + 1) = meUpTo us es i ++ meChunk us es i := by
  simp [meUpTo, List.range_succ, List.flatMap_append]

theorem meUpTo_rest (us es : List Econf.Entry) : ∀ i, i ≤ us.length →
    meUpTo us es i ++ Econf.mergeExistingAux us es (us.drop i) = Econf.mergeExisting us es := by
  intro i
  induction i with
  | zero => intro _; simp [meUpTo, Econf.mergeExisting]
  | succ i ih =>
    intro hi
    have hlt : i < us.length := by omega
    rw [← ih (by omega), meUpTo_succ, List.append_assoc]
    congr 1
    rw [List.drop_eq_getElem_cons hlt]
    simp [meChunk, hlt, Econf.mergeExistingAux]

theorem meUpTo_model (us es : List Econf.Entry) : meUpTo us es us.length = Econf.mergeExisting us es := by
  have := meUpTo_rest us es us.length (Nat.le_refl _)
  simpa [Econf.mergeExistingAux] using this

theorem cpy_overrideValue (es : List Econf.Entry) (u : Econf.Entry) : Econf.cpyEntry (Econf.overrideValue es u) = Econf.overrideValue es u := by
  unfold Econf.overrideValue
  split <;> simp [Econf.cpyEntry]

theorem cpy_newKeysOf (us es : List Econf.Entry) (g : List UInt8) : (Econf.newKeysOf us es g).map Econf.cpyEntry = Econf.newKeysOf us es g := by
  simp [Econf.newKeysOf, List.map_map, Function.comp_def, Econf.cpyEntry]

theorem cpy_meChunk (us es : List Econf.Entry) (i : Nat) : (meChunk us es i).map Econf.cpyEntry = meChunk us es i := by
  unfold meChunk
  split
  · split <;> simp only [List.map_cons, List.map_nil, cpy_overrideValue, cpy_newKeysOf]
  · rfl

theorem cpy_meUpTo (us es : List Econf.Entry) (i : Nat) : (meUpTo us es i).map Econf.cpyEntry = meUpTo us es i := by
  induction i with
  | zero => simp [meUpTo]
  | succ i ih => rw [meUpTo_succ, List.map_append, ih, cpy_meChunk]

theorem meUpTo_length_mono (us es : List Econf.Entry) {i n : Nat} (h : i ≤ n) : (meUpTo us es i).length ≤ (meUpTo us es n).length := by
  obtain ⟨d, rfl⟩ : ∃ d, n = i + d := ⟨n - i, by omega⟩
  unfold meUpTo
  rw [List.range_add, List.flatMap_append, List.length_append]
  omega

/-- base `us` and override `es` readable in the caller's memory `m0` and apart from destination and array, room for the result behind the
    `start` entries already there, sizes that fit `size_t` and `int` -/
structure MeCtx (m0 : Mem) (bk bl0 fa cell bu bua be bea : Nat) (us es : List Econf.Entry) (gl0len cap start : Nat) : Prop where
  arr : ArrCtx m0 bk bl0 fa cell gl0len cap
  src : SrcMem m0 be bea es [bk, bl0, fa]
  usr : SrcMem m0 bu bua us [bk, bl0, fa]
  room : start + (Econf.mergeExisting us es).length ≤ cap
  small : (gl0len : Int) + (Econf.mergeExisting us es).length + es.length + 2 < 2147483648
  usmall : (us.length : Int) + 1 < 18446744073709551616
  esmall : (es.length : Int) + 1 < 18446744073709551616
  ssmall : (start : Int) + (Econf.mergeExisting us es).length + es.length + 1 < 18446744073709551616
  lines : ∀ e ∈ es, (e.line : Int) < 18446744073709551616
  ulines : ∀ e ∈ us, (e.line : Int) < 18446744073709551616

abbrev moLoc (bk cell bu be start cnt i : Nat) (v7 v8 v9 v10 v11 v12 v13 v14 : Val) : List Val :=
  [.ptr bk 0, .ptr cell 0, .ptr bu 0, .ptr be 0, .int (start : Int), .int (cnt : Int), .int (i : Int), v7, v8, v9, v10, v11, v12, v13, v14]

/-- before round `i` of the outer loop the function has appended `meUpTo us es i`; `merge_length` (variable 5) counts them -/
def MoInv (m0 : Mem) (bk bl0 fa cell bu be : Nat) (us es : List Econf.Entry) (names0 : List (List UInt8)) (gl0len cap start : Nat) (ablk0 : Block)
    (i : Nat) (st : St) : Prop :=
  (∃ v7 v8 v9 v10 v11 v12 v13 v14, st.loc = moLoc bk cell bu be start (start + (meUpTo us es i).length) i v7 v8 v9 v10 v11 v12 v13 v14) ∧
  ArrInv m0 bk bl0 fa names0 gl0len cap start ablk0 (meUpTo us es i) st.mem

def moTest : Expr := .bin .lt (.load (.var 6) .u64) (.load (.slot (.load (.var 2) .ptr) 1) .u64) .i32

/-- the first part of a round: the group pointer, the flag, the copy of the base entry, the look-up in the override, the value -/
theorem mo_first {m0 : Mem} {bk bl0 fa cell bu bua be bea : Nat} {us es : List Econf.Entry} {names0 : List (List UInt8)} {gl0len cap start : Nat} {ablk0 : Block}
    (C : MeCtx m0 bk bl0 fa cell bu bua be bea us es gl0len cap start) (fuel : Nat) (hf : gl0len + (Econf.mergeExisting us es).length + es.length + us.length + 2 < fuel)
    (i : Nat) (hi : i < us.length) (mem : Mem) (v7 v8 v9 v10 v11 v12 v13 v14 : Val)
    (hA : ArrInv m0 bk bl0 fa names0 gl0len cap start ablk0 (meUpTo us es i) mem) (REST : Stmt) :
    ∃ M3 bg w9 w10, M3.cstr bg 0 = .ok (us[i]).group ∧ bg < m0.length ∧ bg ∉ [bk, bl0, fa] ∧
      exec fuel (.seq (.expr (.assign (.var 7) (.load (.slot meSrc 0) .ptr) .ptr))
        (.seq (.expr (.assign (.var 8) (.cast .bool (.lit 1 .i32)) .bool))
        (.seq (.inl (some (.var 9)) .ptr (.cons (.load (.var 0) .ptr) (.cons meSrc .nil)) 3 LeafFns.cpy_file_entry.body)
        (.seq (.expr (.call "copy_words" (.cons meDst (.cons (.load (.var 9) .ptr) (.cons (.lit 7 .u64) .nil)))))
        (.seq (.inl (some (.var 10)) .u64 (.cons (.load (.var 3) .ptr) (.cons (.load (.var 7) .ptr) (.cons (.load (.slot meSrc 1) .ptr) .nil))) 4 LeafFns.first_entry.body)
        (.seq meOverride REST))))))
        { mem := mem, loc := moLoc bk cell bu be start (start + (meUpTo us es i).length) i v7 v8 v9 v10 v11 v12 v13 v14 } =
      exec fuel REST { mem := M3, loc := moLoc bk cell bu be start (start + (meUpTo us es i).length) i (.ptr bg 0) (.int 1) w9 w10 v11 v12 v13 v14 } ∧
      ArrInv m0 bk bl0 fa names0 gl0len cap start ablk0 (meUpTo us es i ++ [Econf.overrideValue es us[i]]) M3 := by
  have hU : SrcMem mem bu bua us [bk, bl0, fa] := C.usr.mono hA.agree
  obtain ⟨bg, g1, g2, g3⟩ := (C.usr.ents i hi).grp
  have hbglt : bg < m0.length := cstr_lt g2
  obtain ⟨bq, q1, q2, q3⟩ := (C.usr.ents i hi).key
  have hbualt : bua < m0.length := loadSlot_lt g1
  have hmono := meUpTo_length_mono us es (i := i + 1) (n := us.length) (by omega)
  rw [meUpTo_succ, meUpTo_model, List.length_append] at hmono
  have hchunk1 : 1 ≤ (meChunk us es i).length := by simp [meChunk, hi]
  have hroom := C.room
  have hsm := C.small
  have hes := C.esmall
  obtain ⟨ar1, ar2, ar3, ar4⟩ : start + (meUpTo us es i).length < cap ∧ (gl0len : Int) + (meUpTo us es i).length + 2 < 2147483648 ∧
      gl0len + (meUpTo us es i).length + 1 < fuel ∧ es.length < fuel := by omega
  -- the variables this part reads; the frame stays folded until the end
  generalize hloc : moLoc bk cell bu be start (start + (meUpTo us es i).length) i v7 v8 v9 v10 v11 v12 v13 v14 = loc
  have l0 : loc[0]? = some (.ptr bk 0) := by rw [← hloc]; rfl
  have l1 : loc[1]? = some (.ptr cell 0) := by rw [← hloc]; rfl
  have l2 : loc[2]? = some (.ptr bu 0) := by rw [← hloc]; rfl
  have l3 : loc[3]? = some (.ptr be 0) := by rw [← hloc]; rfl
  have l5 : loc[5]? = some (.int ((start + (meUpTo us es i).length : Nat) : Int)) := by rw [← hloc]; rfl
  have l6 : loc[6]? = some (.int (i : Int)) := by rw [← hloc]; rfl
  have hlen : loc.length = 15 := by rw [← hloc]; rfl
  unfold meSrc meDst
  -- (1) `group = uf->file_entry[i].group`
  have hs1 := exec_assign_var (fuel := fuel) (t := 7) (ty := .ptr)
    (ef_member 2 6 mem loc bu bua us _ i 0 (.ptr bg 0) hU hi l2 l6 (by rw [loadSlot_congr (hA.agree bua hbualt C.usr.arrav)]; simpa using g1))
    (show convert .ptr (.ptr bg 0) = .ok (.ptr bg 0) from rfl) (by simp [hlen])
  rw [exec_seq_normal hs1]
  -- (2) `last_of_group = true`
  have hs2 := exec_assign_var (fuel := fuel) (t := 8) (ty := .bool) (evalE_cast_lit .bool 1 { mem := mem, loc := loc.set 7 (.ptr bg 0) } (by decide) (by decide))
    (show convert .bool (.int 1) = .ok (.int 1) from rfl) (by simp [hlen])
  rw [exec_seq_normal hs2]
  -- (3) the copy of the base entry behind what is there
  have hsrc := ef_src 2 6 mem ((loc.set 7 (.ptr bg 0)).set 8 (.int 1)) bu bua us _ i hU (Nat.le_of_lt hi)
    (get_set_ne (by decide) (get_set_ne (by decide) l2)) (get_set_ne (by decide) (get_set_ne (by decide) l6))
  obtain ⟨M1, hex1, hA1, hlen1, hfresh, hfr1, hwords⟩ := hA.append C.arr bua (7 * i) us[i] (C.usr.ents i hi) _ _ _ (.load (.var 5) .u64) 9
    ar1 ar2 (C.ulines _ (List.getElem_mem hi)) fuel ar3 (get_set_ne (by decide) (get_set_ne (by decide) l0)) (get_set_ne (by decide) (get_set_ne (by decide) l1))
    (by simp [hlen]) (by decide) hsrc
    (fun mm => evalE_var (get_set_ne (by decide) (get_set_ne (by decide) (get_set_ne (by decide) l5))) (by simp))
    (List.getElem?_set_self (by simp [hlen]))
  rw [exec_seq_assoc, exec_seq_normal hex1]
  -- (4) `j = first_entry(ef, group, uf->file_entry[i].key)`
  have hagree1 := hA1.agree
  have hU1 : SrcMem M1 bu bua us [bk, bl0, fa] := C.usr.mono hagree1
  have hS1 : SrcMem M1 be bea es [bk, bl0, fa] := C.src.mono hagree1
  have hg1 : M1.cstr bg 0 = .ok (us[i]).group := by rw [cstr_congr (hagree1 bg hbglt g3)]; exact g2
  have hq1 : M1.cstr bq 0 = .ok (us[i]).key := by rw [cstr_congr (hagree1 bq (cstr_lt q2) q3)]; exact q2
  have hkey := ef_member 2 6 M1 (((loc.set 7 (.ptr bg 0)).set 8 (.int 1)).set 9 (.ptr mem.length 0)) bu bua us _ i 1 (.ptr bq 0) hU1 hi
    (get_set_ne (by decide) (get_set_ne (by decide) (get_set_ne (by decide) l2))) (get_set_ne (by decide) (get_set_ne (by decide) (get_set_ne (by decide) l6)))
    (by rw [loadSlot_congr (hagree1 bua hbualt C.usr.arrav)]; simpa using q1)
  have hinl10 := call_first_entry fuel 3 7 10 _ M1 _ be bea bg bq es _ _ _ hS1
    (get_set_ne (by decide) (get_set_ne (by decide) (get_set_ne (by decide) l3))) (get_set_ne (by decide) (get_set_ne (by decide) (List.getElem?_set_self (by simp [hlen]))))
    hkey hg1 hq1 (by simp [hlen]) hes ar4
  rw [exec_seq_normal hinl10]
  -- (5) the override's value, if it defines the key
  obtain ⟨M3, hex3, hA3, hlen3⟩ := me_override C.arr C.src us[i] hA hA1 hlen1 hfresh hwords
    ((((loc.set 7 (.ptr bg 0)).set 8 (.int 1)).set 9 (.ptr mem.length 0)).set 10 (.int ((firstIdx (entsOf es) (us[i]).group (us[i]).key : Nat) : Int)))
    (get_set_ne (by decide) (get_set_ne (by decide) (get_set_ne (by decide) (get_set_ne (by decide) l1))))
    (get_set_ne (by decide) (get_set_ne (by decide) (get_set_ne (by decide) (get_set_ne (by decide) l3))))
    (get_set_ne (by decide) (get_set_ne (by decide) (get_set_ne (by decide) (get_set_ne (by decide) l5))))
    (List.getElem?_set_self (by simp [hlen])) fuel
  rw [exec_seq_normal hex3]
  subst hloc
  exact ⟨M3, bg, .ptr mem.length 0, .int ((firstIdx (entsOf es) (us[i]).group (us[i]).key : Nat) : Int),
    by rw [cstr_congr (hA3.agree bg hbglt g3)]; exact g2, hbglt, g3, rfl, hA3⟩

/-- the second part of a round: the count, the search for a later entry of the group (then `continue`), else on to the inner loop -/
theorem mo_rest (fuel : Nat) (M : Mem) (bk cell bu bua be bg : Nat) (us : List Econf.Entry) (av : List Nat) (start cnt i : Nat) (w9 w10 v11 v12 v13 v14 : Val)
    (hU : SrcMem M bu bua us av) (hi : i < us.length) (hg : M.cstr bg 0 = .ok (us[i]).group)
    (hus : (us.length : Int) + 1 < 18446744073709551616) (hfu : us.length < fuel) (hcnt : (cnt : Int) + 1 < 18446744073709551616) :
    ∃ k : Int, exec fuel (.seq (.expr (.incdec (.var 5) true true .u64))
    (.seq (.expr (.assign (.var 11) (.bin .add (.load (.var 6) .u64) (.cast .u64 (.lit 1 .i32)) .u64) .u64))
    (.seq meLastLoop
    (.seq (.ite (.un .lnot (.load (.var 8) .bool) .i32) .cont .skip)
    (.seq (.expr (.assign (.var 10) (.cast .u64 (.lit 0 .i32)) .u64)) meNewKeys)))))
        { mem := M, loc := moLoc bk cell bu be start cnt i (.ptr bg 0) (.int 1) w9 w10 v11 v12 v13 v14 } =
      if Econf.hasGroup (us.drop (i + 1)) (us[i]).group then
        .cont { mem := M, loc := moLoc bk cell bu be start (cnt + 1) i (.ptr bg 0) (.int 0) w9 w10 (.int (k : Int)) v12 v13 v14 }
      else exec fuel meNewKeys { mem := M, loc := meLoc bk cell bu be start (cnt + 1) i bg (.int 1) w9 0 (.int (k : Int)) v12 v13 v14 } := by
  have hstep6 : (i : Int) + 1 < 18446744073709551616 := by omega
  -- `merge_length++`
  rw [exec_seq_normal (exec_expr_ok (incdec_u64_eval 5 M _ cnt rfl hcnt))]
  -- `k = i + 1`
  have h7 : evalE (.bin .add (.load (.var 6) .u64) (.cast .u64 (.lit 1 .i32)) .u64)
      { mem := M, loc := (moLoc bk cell bu be start cnt i (.ptr bg 0) (.int 1) w9 w10 v11 v12 v13 v14).set 5 (.int ((cnt + 1 : Nat) : Int)) } =
      .ok (.int ((i + 1 : Nat) : Int), { mem := M, loc := (moLoc bk cell bu be start cnt i (.ptr bg 0) (.int 1) w9 w10 v11 v12 v13 v14).set 5 (.int ((cnt + 1 : Nat) : Int)) }) := by
    have : wrapTo .u64 ((i : Int) + 1) = (i : Int) + 1 := wrapTo_u64_small _ (by omega) (by omega)
    simp [mc_eval, binop, cmpInt, arith, Ty.signed, convert, w64_one, this]
  rw [exec_seq_normal (exec_assign_var (t := 11) h7 (convert_u64_small _ (by omega) (by omega)) (by simp))]
  -- is there a later entry of the group?
  obtain ⟨k, hlast⟩ := me_last fuel M ((moLoc bk cell bu be start cnt i (.ptr bg 0) (.int 1) w9 w10 v11 v12 v13 v14).set 5 (.int ((cnt + 1 : Nat) : Int)))
    bu bua bg us _ (us[i]).group i hU rfl rfl hg (by simp) hi hus hfu
  rw [exec_seq_normal hlast]
  refine ⟨k, ?_⟩
  cases hhas : Econf.hasGroup (us.drop (i + 1)) (us[i]).group with
  | true =>
    simp only [if_true]
    exact exec_seq_cont (by rw [exec_ite_true (test_not_flag 8 M _ 0 rfl (Or.inl rfl))]; exact exec_cont _ _)
  | false =>
    simp only [Bool.false_eq_true, if_false]
    rw [exec_seq_normal (show exec fuel (.ite (.un .lnot (.load (.var 8) .bool) .i32) .cont .skip) _ = .normal _ by
        rw [exec_ite_false (test_not_flag 8 M _ 1 rfl (Or.inr rfl))]; exact exec_skip _ _),
      exec_seq_normal (u64_zero fuel 10 _ _ (by simp))]
    rfl

/-- one round of `for (i = 0; i < uf->length; i++)`: base entry `i` with the override's value is appended, and behind the last entry of its
    group the keys of that group only the override defines (`meChunk us es i`) -/
theorem mo_round {m0 : Mem} {bk bl0 fa cell bu bua be bea : Nat} {us es : List Econf.Entry} {names0 : List (List UInt8)} {gl0len cap start : Nat} {ablk0 : Block}
    (C : MeCtx m0 bk bl0 fa cell bu bua be bea us es gl0len cap start) (fuel : Nat) (hf : gl0len + (Econf.mergeExisting us es).length + es.length + us.length + 2 < fuel)
    (i : Nat) (hi : i < us.length) (st : St) (h : MoInv m0 bk bl0 fa cell bu be us es names0 gl0len cap start ablk0 i st) :
    ∃ T Q st', testOf (some moTest) st = .ok (true, T) ∧ (exec fuel meRound T = .normal Q ∨ exec fuel meRound T = .cont Q) ∧
      stepOf (some (.incdec (.var 6) true true .u64)) Q = .ok st' ∧
      MoInv m0 bk bl0 fa cell bu be us es names0 gl0len cap start ablk0 (i + 1) st' := by
  obtain ⟨⟨v7, v8, v9, v10, v11, v12, v13, v14, hloc⟩, hA⟩ := h
  obtain ⟨mem, loc⟩ := st
  simp only at hloc hA; subst hloc
  have hU : SrcMem mem bu bua us [bk, bl0, fa] := C.usr.mono hA.agree
  have htest := ef_test 2 6 mem (moLoc bk cell bu be start (start + (meUpTo us es i).length) i v7 v8 v9 v10 v11 v12 v13 v14) bu bua us _ i hU rfl rfl
  simp only [hi, decide_true] at htest
  have hmono := meUpTo_length_mono us es (i := i + 1) (n := us.length) (by omega)
  rw [meUpTo_model] at hmono
  have hsucc := meUpTo_succ us es i
  have hchunklen : (meUpTo us es (i + 1)).length = (meUpTo us es i).length + (meChunk us es i).length := by rw [hsucc, List.length_append]
  have hroom := C.room
  have hsm := C.small
  have hss := C.ssmall
  have hus := C.usmall
  obtain ⟨hstep6, hcnt1, hfu⟩ : (i : Int) + 1 < 18446744073709551616 ∧
      ((start + (meUpTo us es i).length : Nat) : Int) + 1 < 18446744073709551616 ∧ us.length < fuel := by omega
  obtain ⟨M3, bg, w9, w10, hg3, hbglt, hbgav, hex, hA3⟩ := mo_first C fuel hf i hi mem v7 v8 v9 v10 v11 v12 v13 v14 hA
    (.seq (.expr (.incdec (.var 5) true true .u64))
    (.seq (.expr (.assign (.var 11) (.bin .add (.load (.var 6) .u64) (.cast .u64 (.lit 1 .i32)) .u64) .u64))
    (.seq meLastLoop
    (.seq (.ite (.un .lnot (.load (.var 8) .bool) .i32) .cont .skip)
    (.seq (.expr (.assign (.var 10) (.cast .u64 (.lit 0 .i32)) .u64)) meNewKeys)))))
  obtain ⟨k, hrest⟩ := mo_rest fuel M3 bk cell bu bua be bg us _ start (start + (meUpTo us es i).length) i w9 w10 v11 v12 v13 v14
    (C.usr.mono hA3.agree) hi hg3 hus hfu hcnt1
  have hround : exec fuel meRound { mem := mem, loc := moLoc bk cell bu be start (start + (meUpTo us es i).length) i v7 v8 v9 v10 v11 v12 v13 v14 } = _ :=
    hex.trans hrest
  have hstep : ∀ mm c w7 w8 w9 w10 w11 w12 w13 w14, stepOf (some (.incdec (.var 6) true true .u64))
      { mem := mm, loc := moLoc bk cell bu be start c i w7 w8 w9 w10 w11 w12 w13 w14 } =
      .ok { mem := mm, loc := moLoc bk cell bu be start c (i + 1) w7 w8 w9 w10 w11 w12 w13 w14 } :=
    fun mm c w7 w8 w9 w10 w11 w12 w13 w14 => stepOf_some _ _ _ _ (incdec_u64_eval 6 mm _ i rfl hstep6)
  cases hhas : Econf.hasGroup (us.drop (i + 1)) (us[i]).group with
  | true =>
    -- a later entry of the group: `continue`
    have hchunk : meChunk us es i = [Econf.overrideValue es us[i]] := by simp [meChunk, hi, hhas]
    simp only [hhas, if_true] at hround
    refine ⟨_, _, _, htest, Or.inr hround, hstep _ _ _ _ _ _ _ _ _ _,
      ⟨.ptr bg 0, .int 0, w9, w10, .int (k : Int), v12, v13, v14, ?_⟩, by rw [hsucc, hchunk]; exact hA3⟩
    rw [hsucc, hchunk, List.length_append, List.length_singleton, ← Nat.add_assoc]
  | false =>
    -- none: the keys of this group that only the override defines follow
    have hchunk : meChunk us es i = Econf.overrideValue es us[i] :: Econf.newKeysOf us es (us[i]).group := by simp [meChunk, hi, hhas]
    simp only [hhas, Bool.false_eq_true, if_false] at hround
    have hnk := mnSel_model us es (us[i]).group
    have hnklen : (Econf.newKeysOf us es (us[i]).group).length = (selBy (mnP us (us[i]).group) es es.length).length := by rw [← hnk]; simp
    have hchunklen2 : (meChunk us es i).length = 1 + (selBy (mnP us (us[i]).group) es es.length).length := by rw [hchunk]; simp [hnklen]; omega
    have hctx : MnCtx m0 bk bl0 fa cell bu bua be bea bg us es (us[i]).group gl0len cap (start + (meUpTo us es i).length + 1) :=
      ⟨C.arr, C.src, C.usr, by rw [← cstr_congr (hA3.agree bg hbglt hbgav)]; exact hg3, hbgav, by omega, hus, by omega, C.lines⟩
    obtain ⟨mem', x12, x13, x14, hexn, hAn⟩ := me_newkeys_inv (astart := start) (pre := (meUpTo us es i) ++ [Econf.overrideValue es us[i]]) start i (.int 1) w9 (.int (k : Int)) v12 v13 v14
      hctx (by simp; omega) (by simp; omega) (by simp; omega) fuel (by simp; omega) M3 hA3
    refine ⟨_, _, _, htest, Or.inl (hround.trans hexn), hstep _ _ (.ptr bg 0) _ _ _ _ _ _ _,
      ⟨.ptr bg 0, .int 1, w9, .int (es.length : Int), .int (k : Int), x12, x13, x14, ?_⟩, ?_⟩
    · rw [hchunklen, hchunklen2, ← Nat.add_assoc, ← Nat.add_assoc]
    · rw [hsucc, hchunk]
      refine hAn.congr ?_
      rw [List.map_append, List.map_append, List.map_append, List.map_cons, hnk, cpy_newKeysOf]
      simp

/-- `merge_existing_groups` on the generated term, both objects present: behind the `start` entries already in the array stand exactly the
    entries of the model's `mergeExisting` (every entry of the base with the override's value if the override defines the key, and behind
    the last entry of each group the keys of that group which only the override defines); their number is added to the count returned; the
    destination's group list has got their groups in order of first use; the rest of the caller's memory is unchanged -/
theorem C_merge_existing_groups (m : Mem) (bk bl0 fa cell bu bua be bea : Nat) (us es : List Econf.Entry) (gl0 : List (Nat × List UInt8)) (cap start : Nat)
    (C : MeCtx m bk bl0 fa cell bu bua be bea us es gl0.length cap start)
    (hG : GlMem m bk bl0 gl0) (hkw : ∀ blk, m[bk]? = some blk → blk.writable = true) (hne : gl0 ≠ [] → bk ≠ bl0) (hd : ∀ x, x ∈ gl0 → x.1 ≠ bk ∧ x.1 ≠ bl0)
    (ablk0 : Block) (ha1 : m[fa]? = some ablk0) (ha2 : ablk0.live = true) (ha3 : ablk0.writable = true) (ha4 : ablk0.cells = []) (ha5 : ablk0.slots.length = 7 * cap)
    (fuel : Nat) (hf : gl0.length + (Econf.mergeExisting us es).length + es.length + us.length + 2 < fuel) :
    ∃ m' loc' bl' gl', exec fuel LeafFns.merge_existing_groups.body
        { mem := m, loc := [.ptr bk 0, .ptr cell 0, .ptr bu 0, .ptr be 0, .int (start : Int)] ++ List.replicate 10 .undef } =
        .ret (.int ((start + (Econf.mergeExisting us es).length : Nat) : Int)) { mem := m', loc := loc' } ∧
      GlMem m' bk bl' gl' ∧
      gl'.map (·.2) = ((Econf.mergeExisting us es).map (·.group)).foldl Econf.addGroup (gl0.map (·.2)) ∧
      (∃ ablk', m'[fa]? = some ablk' ∧ ablk'.live = true ∧ ablk'.writable = true ∧ ablk'.cells = [] ∧ ablk'.slots.length = 7 * cap ∧
        ∀ k, k < 7 * start → ablk'.slots[k]? = ablk0.slots[k]?) ∧
      (∀ j (h : j < (Econf.mergeExisting us es).length), EntMem m' fa (7 * (start + j)) ((Econf.mergeExisting us es)[j]) [bk, bl']) ∧
      (∀ b, b < m.length → b ∉ [bk, bl0, fa] → m'[b]? = m[b]?) ∧ m.length ≤ m'.length ∧
      (bl' = bl0 ∨ m.length ≤ bl') ∧ (∀ kb blk, m[bk]? = some kb → m'[bk]? = some blk → KfKeep kb blk) ∧ (gl' ≠ [] → bk ≠ bl') ∧ (∀ x, x ∈ gl' → x.1 ≠ bk ∧ x.1 ≠ bl') ∧
      gl'.length ≤ gl0.length + (Econf.mergeExisting us es).length := by
  have hss := C.ssmall
  have wS : wrapTo .u64 (start : Int) = (start : Int) := wrapTo_u64_small _ (by omega) (by omega)
  rw [merge_existing_groups_shape]
  have hinit : exec fuel (.expr (.assign (.var 5) (.load (.var 4) .u64) .u64))
      { mem := m, loc := [.ptr bk 0, .ptr cell 0, .ptr bu 0, .ptr be 0, .int (start : Int)] ++ List.replicate 10 .undef } =
      .normal { mem := m, loc := moLoc bk cell bu be start start 0 .undef .undef .undef .undef .undef .undef .undef .undef |>.set 6 .undef } := by
    simp [mc_exec, mc_eval, convert, wS, moLoc]
  rw [exec_seq_normal hinit]
  have htl : testOf (some (.land (.load (.var 2) .ptr) (.load (.var 3) .ptr)))
      { mem := m, loc := moLoc bk cell bu be start start 0 .undef .undef .undef .undef .undef .undef .undef .undef |>.set 6 .undef } =
      .ok (true, { mem := m, loc := moLoc bk cell bu be start start 0 .undef .undef .undef .undef .undef .undef .undef .undef |>.set 6 .undef }) := by
    simp [mc_eval, testOf, truth, boolVal, moLoc]
  have hi6 : exec fuel (.expr (.assign (.var 6) (.cast .u64 (.lit 0 .i32)) .u64))
      { mem := m, loc := moLoc bk cell bu be start start 0 .undef .undef .undef .undef .undef .undef .undef .undef |>.set 6 .undef } =
      .normal { mem := m, loc := moLoc bk cell bu be start start 0 .undef .undef .undef .undef .undef .undef .undef .undef } :=
    u64_zero fuel 6 _ _ (by simp [moLoc])
  have hsel0 : meUpTo us es 0 = [] := by simp [meUpTo]
  have hinv0 : MoInv m bk bl0 fa cell bu be us es (gl0.map (·.2)) gl0.length cap start ablk0 0
      { mem := m, loc := moLoc bk cell bu be start start 0 .undef .undef .undef .undef .undef .undef .undef .undef } := by
    refine ⟨⟨.undef, .undef, .undef, .undef, .undef, .undef, .undef, .undef, by rw [hsel0]; simp⟩, ?_⟩
    rw [hsel0]
    exact ⟨fun b _ _ => rfl, Nat.le_refl _, ⟨bl0, gl0, hG, Or.inl rfl, KfKeep.same hkw rfl, hne, hd, by simp, by simp, by simp⟩, ⟨ablk0, ha1, ha2, ha3, ha4, ha5, fun k _ => rfl⟩⟩
  obtain ⟨R, hloop, ⟨v7, v8, v9, v10, v11, v12, v13, v14, hlocR⟩, hAR⟩ := loop_inv _ _ _
    (fun st => MoInv m bk bl0 fa cell bu be us es (gl0.map (·.2)) gl0.length cap start ablk0 us.length st) us.length
    (fun i st => MoInv m bk bl0 fa cell bu be us es (gl0.map (·.2)) gl0.length cap start ablk0 i st)
    (fun i st hi hinv => mo_round C fuel hf i hi st hinv)
    (fun st hinv => by
      obtain ⟨⟨x7, x8, x9, x10, x11, x12, x13, x14, hloc⟩, hA⟩ := hinv
      obtain ⟨mm, loc⟩ := st
      simp only at hloc hA; subst hloc
      have hU : SrcMem mm bu bua us [bk, bl0, fa] := C.usr.mono hA.agree
      have htest := ef_test 2 6 mm (moLoc bk cell bu be start (start + (meUpTo us es us.length).length) us.length x7 x8 x9 x10 x11 x12 x13 x14) bu bua us _ us.length hU rfl rfl
      simp only [Nat.lt_irrefl, decide_false] at htest
      exact ⟨_, htest, ⟨⟨x7, x8, x9, x10, x11, x12, x13, x14, rfl⟩, hA⟩⟩)
    _ fuel hinv0 (by omega)
  obtain ⟨memR, locR⟩ := R
  simp only at hlocR hAR; subst hlocR
  have hloop' : exec fuel (.for (some moTest) (some (.incdec (.var 6) true true .u64)) meRound)
      { mem := m, loc := moLoc bk cell bu be start start 0 .undef .undef .undef .undef .undef .undef .undef .undef } =
      .normal { mem := memR, loc := moLoc bk cell bu be start (start + (meUpTo us es us.length).length) us.length v7 v8 v9 v10 v11 v12 v13 v14 } := by
    rw [exec_for]; exact hloop
  have hmain : exec fuel (.ite (.land (.load (.var 2) .ptr) (.load (.var 3) .ptr))
      (.seq (.expr (.assign (.var 6) (.cast .u64 (.lit 0 .i32)) .u64))
        (.for (some (.bin .lt (.load (.var 6) .u64) (.load (.slot (.load (.var 2) .ptr) 1) .u64) .i32)) (some (.incdec (.var 6) true true .u64)) meRound)) .skip)
      { mem := m, loc := moLoc bk cell bu be start start 0 .undef .undef .undef .undef .undef .undef .undef .undef |>.set 6 .undef } =
      .normal { mem := memR, loc := moLoc bk cell bu be start (start + (meUpTo us es us.length).length) us.length v7 v8 v9 v10 v11 v12 v13 v14 } := by
    rw [exec_ite_true htl, exec_seq_normal hi6]; exact hloop'
  rw [exec_seq_normal hmain]
  have hmod := meUpTo_model us es
  rw [hmod] at hAR
  obtain ⟨bl', gl', d1, d2, d3, d4, d5, d6, d7, d8⟩ := hAR.dest
  have hcpy : ∀ j (h : j < (Econf.mergeExisting us es).length), Econf.cpyEntry ((Econf.mergeExisting us es)[j]) = (Econf.mergeExisting us es)[j] := by
    intro j h
    have := cpy_meUpTo us es us.length
    rw [hmod] at this
    have h2 := congrArg (fun l => l[j]?) this
    simpa [h] using h2
  refine ⟨memR, moLoc bk cell bu be start (start + (meUpTo us es us.length).length) us.length v7 v8 v9 v10 v11 v12 v13 v14, bl', gl',
    by simp [mc_exec, mc_eval, hmod], d1, d7, hAR.arr, fun j hj => ?_, hAR.agree, hAR.grows, d2, d3, d4, d5, d6⟩
  rw [← hcpy j hj]; exact d8 j hj

/-- an object described in an old memory is still there, with another avoid list, in a memory that agrees with the old one on the
    blocks that were not to be avoided -/
theorem SrcMem.transfer {m0 m : Mem} {bo ba : Nat} {es : List Econf.Entry} {av0 av : List Nat} (h : SrcMem m0 bo ba es av0)
    (hm : ∀ b, b < m0.length → b ∉ av0 → m[b]? = m0[b]?) (hav : ∀ b, b < m0.length → b ∉ av0 → b ∉ av) : SrcMem m bo ba es av := by
  obtain ⟨kb, k1, k2, k3, k4⟩ := h.kf
  obtain ⟨ab, a1, a2, a3⟩ := h.arr
  have hbo : bo < m0.length := (List.getElem?_eq_some_iff.1 k1).1
  have hba : ba < m0.length := (List.getElem?_eq_some_iff.1 a1).1
  exact ⟨⟨kb, by rw [hm bo hbo h.kfav]; exact k1, k2, k3, k4⟩, hav bo hbo h.kfav, ⟨ab, by rw [hm ba hba h.arrav]; exact a1, a2, a3⟩, hav ba hba h.arrav,
    fun i hi => (h.ents i hi).transfer hm hav⟩

/-- an element of the array stays what it is over a later step that keeps its words and every older block outside the destination's two
    and the array (which may move to `fa'`) -/
theorem EntMem.carry {m m' : Mem} {fa fa' os bk bl bl' : Nat} {e : Econf.Entry} {ablk ablk' : Block} (skip : List Nat)
    (h : EntMem m fa os e [bk, bl]) (ha : m[fa]? = some ablk) (hac : ablk.cells = []) (ha' : m'[fa']? = some ablk') (hl' : ablk'.live = true)
    (hw : ∀ k, k < 7 → ablk'.slots[os + k]? = ablk.slots[os + k]?)
    (hfr : ∀ b, b < m.length → b ≠ bk → b ≠ bl → b ≠ fa → b ∉ skip → m'[b]? = m[b]?)
    (hskip : ∀ b, b ∈ skip → ∀ str, m.cstr b 0 ≠ .ok str)
    (hbl : bl' = bl ∨ m.length ≤ bl') (hfa : fa' ≠ bk ∧ fa' ≠ bl') : EntMem m' fa' os e [bk, bl'] := by
  have hp := h.ptr_str
  refine h.reblock' ha ha' hl' hw (fun k hk b hl => ?_) (fun k hk b hl => ?_) (by simp; exact hfa)
  · obtain ⟨⟨str, hc⟩, hav⟩ := hp k hk b hl
    simp only [List.mem_cons, List.not_mem_nil, or_false, not_or] at hav
    exact hfr b (cstr_lt hc) hav.1 hav.2 (fun hh => no_cstr ha hac str (hh ▸ hc)) (fun hs => hskip b hs str hc)
  · obtain ⟨⟨str, hc⟩, hav⟩ := hp k hk b hl
    simp only [List.mem_cons, List.not_mem_nil, or_false, not_or] at hav ⊢
    refine ⟨hav.1, ?_⟩
    rcases hbl with e | e
    · rw [e]; exact hav.2
    · have := cstr_lt hc; omega

theorem addGroup_idem' (gs : List (List UInt8)) (g : List UInt8) : Econf.addGroup (Econf.addGroup gs g) g = Econf.addGroup gs g := addGroup_idem gs g

/-- the group-less entries add the group-less marker once -/
theorem foldl_addGroup_none (names : List (List UInt8)) (l : List Econf.Entry) (hl : ∀ e, e ∈ l → e.group = Econf.NONE) :
    (l.map (·.group)).foldl Econf.addGroup names = (if l.length = 0 then names else Econf.addGroup names Econf.NONE) := by
  induction l generalizing names with
  | nil => simp
  | cons e l ih =>
    have he := hl e (by simp)
    rw [List.map_cons, List.foldl_cons, he, ih (Econf.addGroup names Econf.NONE) (fun x hx => hl x (by simp [hx]))]
    by_cases h0 : l.length = 0
    · simp [h0]
    · simp [h0, addGroup_idem]

theorem insertNoGroup_groups (us es : List Econf.Entry) : ∀ e, e ∈ Econf.insertNoGroup us es → e.group = Econf.NONE := by
  intro e he
  unfold Econf.insertNoGroup at he
  split at he
  · simp at he
  · simp only [List.mem_map, List.mem_filter] at he
    obtain ⟨x, ⟨_, hx⟩, rfl⟩ := he
    simpa [Econf.cpyEntry] using hx

/-- the elements three steps wrote one behind the other, seen in the last memory: the second step keeps the first `l1.length` elements' words
    and strings, the third (which may move the array to `fa'` and rewrites the cell) those of the first two steps -/
theorem merge3_ents {m1 m2 m3 : Mem} {bk bl1 bl2 bl3 fa fa' cell : Nat} {ablk1 ablk2 ablk3 : Block} (l1 l2 l3 : List Econf.Entry)
    (hE1 : ∀ j (h : j < l1.length), EntMem m1 fa (7 * j) l1[j] [bk, bl1])
    (hE2 : ∀ j (h : j < l2.length), EntMem m2 fa (7 * (l1.length + j)) l2[j] [bk, bl2])
    (hE3 : ∀ j (h : j < l3.length), EntMem m3 fa' (7 * (l1.length + l2.length + j)) l3[j] [bk, bl3])
    (b1 : m1[fa]? = some ablk1) (b4 : ablk1.cells = []) (c1 : m2[fa]? = some ablk2) (c2 : ablk2.live = true) (c4 : ablk2.cells = [])
    (c6 : ∀ k, k < 7 * l1.length → ablk2.slots[k]? = ablk1.slots[k]?)
    (hfr2 : ∀ b, b < m1.length → b ∉ [bk, bl1, fa] → m2[b]? = m1[b]?) (hbl2 : bl2 = bl1 ∨ m1.length ≤ bl2) (hfa2 : fa ≠ bk ∧ fa ≠ bl2)
    (e1 : m3[fa']? = some ablk3) (e2 : ablk3.live = true) (e6 : ∀ k, k < 7 * (l1.length + l2.length) → ablk3.slots[k]? = ablk2.slots[k]?)
    (hfr3 : ∀ b, b < m2.length → b ∉ [bk, bl2, fa, cell] → m3[b]? = m2[b]?) (hcell : ∀ str, m2.cstr cell 0 ≠ .ok str)
    (hbl3 : bl3 = bl2 ∨ m2.length ≤ bl3) (hfa3 : fa' ≠ bk ∧ fa' ≠ bl3) :
    ∀ j (h : j < (l1 ++ l2 ++ l3).length), EntMem m3 fa' (7 * j) (l1 ++ l2 ++ l3)[j] [bk, bl3] := by
  have carry23 : ∀ (os : Nat) (e : Econf.Entry), os + 7 ≤ 7 * (l1.length + l2.length) → EntMem m2 fa os e [bk, bl2] → EntMem m3 fa' os e [bk, bl3] :=
    fun os e hos h => h.carry [cell] c1 c4 e1 e2 (fun k hk => e6 (os + k) (by omega))
      (fun b hb h1 h2 h3 h4 => hfr3 b hb (by
        simp only [List.mem_cons, List.not_mem_nil, or_false, not_or] at h4 ⊢
        exact ⟨h1, h2, h3, h4⟩))
      (fun b hb str => by
        simp only [List.mem_singleton] at hb
        subst hb
        exact hcell str) hbl3 hfa3
  intro j hj
  by_cases hj1 : j < l1.length
  · rw [List.getElem_append_left (by simp; omega), List.getElem_append_left hj1]
    exact carry23 _ _ (by omega) ((hE1 j hj1).carry [] b1 b4 c1 c2 (fun k hk => c6 (7 * j + k) (by omega))
      (fun b hb h1 h2 h3 _ => hfr2 b hb (by
        simp only [List.mem_cons, List.not_mem_nil, or_false, not_or]
        exact ⟨h1, h2, h3⟩)) (by simp) hbl2 hfa2)
  · simp only [List.length_append] at hj
    by_cases hj2 : j < l1.length + l2.length
    · rw [List.getElem_append_left (by simp; omega), List.getElem_append_right (by omega)]
      have h2e := hE2 (j - l1.length) (by omega)
      rw [show l1.length + (j - l1.length) = j by omega] at h2e
      exact carry23 _ _ (by omega) h2e
    · rw [List.getElem_append_right (by simp; omega)]
      have h3e := hE3 (j - (l1.length + l2.length)) (by omega)
      rw [show l1.length + l2.length + (j - (l1.length + l2.length)) = j by omega] at h3e
      simpa using h3e

/-- **The three calls of `econf_mergeFiles` in sequence**, on the generated terms: from a destination `bk` with group list `gl0`, a fresh
    entry array of `cap` entries behind the cell `*fe`, a base `us` and an override `es` that live apart from them, the calls
    `insert_nogroup`, `merge_existing_groups(…, n1)`, `add_new_groups(…, n2)` return `n1`, `n2`, `n3` with `n3` the length of the model's
    `mergeEntries us es`, the array `*fe` points to afterwards holds exactly `mergeEntries us es`, the destination's group list is the old one
    with the groups of these entries added in order of first use, and every other block of the caller is unchanged. -/
theorem C_merge3 (m : Mem) (bk bl0 fa cell bu bua be bea : Nat) (us es : List Econf.Entry) (gl0 : List (Nat × List UInt8)) (cap : Nat)
    (hUs : SrcMem m bu bua us [bk, bl0, fa]) (hEs : SrcMem m be bea es [bk, bl0, fa])
    (cblk : Block) (hc1 : m[cell]? = some cblk) (hc2 : cblk.live = true) (hc3 : cblk.slots[0]? = some (.ptr fa 0)) (hc4 : cblk.writable = true) (hc5 : cblk.cells = [])
    (hcav : cell ∉ [bk, bl0, fa]) (hfane : fa ≠ bk ∧ fa ≠ bl0)
    (hG : GlMem m bk bl0 gl0) (hkw : ∀ blk, m[bk]? = some blk → blk.writable = true) (hne : gl0 ≠ [] → bk ≠ bl0) (hd : ∀ x, x ∈ gl0 → x.1 ≠ bk ∧ x.1 ≠ bl0)
    (ablk0 : Block) (ha1 : m[fa]? = some ablk0) (ha2 : ablk0.live = true) (ha3 : ablk0.writable = true) (ha4 : ablk0.cells = []) (ha5 : ablk0.slots.length = 7 * cap)
    (hcap : (Econf.mergeEntries us es).length ≤ cap) (hcap2 : es.length ≤ cap)
    (hsmall : (gl0.length : Int) + (Econf.mergeEntries us es).length + es.length + 2 < 2147483648)
    (husmall : (us.length : Int) + 1 < 18446744073709551616) (hesmall : (es.length : Int) + 1 < 18446744073709551616)
    (hcsmall : (7 * cap : Int) < 18446744073709551616)
    (hlines : ∀ e ∈ es, (e.line : Int) < 18446744073709551616) (hulines : ∀ e ∈ us, (e.line : Int) < 18446744073709551616)
    (fuel : Nat) (hf : gl0.length + (Econf.mergeEntries us es).length + es.length + us.length + 4 < fuel) :
    ∃ m1 m2 m3 loc1 loc2 loc3 bl' gl' fa',
      exec fuel LeafFns.insert_nogroup.body { mem := m, loc := [.ptr bk 0, .ptr cell 0, .ptr bu 0, .ptr be 0, .undef, .undef, .undef, .undef, .undef] } =
        .ret (.int ((Econf.insertNoGroup us es).length : Int)) { mem := m1, loc := loc1 } ∧
      exec fuel LeafFns.merge_existing_groups.body
        { mem := m1, loc := [.ptr bk 0, .ptr cell 0, .ptr bu 0, .ptr be 0, .int ((Econf.insertNoGroup us es).length : Int)] ++ List.replicate 10 .undef } =
        .ret (.int (((Econf.insertNoGroup us es).length + (Econf.mergeExisting us es).length : Nat) : Int)) { mem := m2, loc := loc2 } ∧
      exec fuel LeafFns.add_new_groups.body
        { mem := m2, loc := [.ptr bk 0, .ptr cell 0, .ptr bu 0, .ptr be 0, .int (((Econf.insertNoGroup us es).length + (Econf.mergeExisting us es).length : Nat) : Int),
          .undef, .undef, .undef, .undef, .undef] } =
        .ret (.int ((Econf.mergeEntries us es).length : Int)) { mem := m3, loc := loc3 } ∧
      GlMem m3 bk bl' gl' ∧
      gl'.map (·.2) = ((Econf.mergeEntries us es).map (·.group)).foldl Econf.addGroup (gl0.map (·.2)) ∧
      (∃ cblk', m3[cell]? = some cblk' ∧ cblk'.live = true ∧ cblk'.slots[0]? = some (.ptr fa' 0)) ∧
      (∀ j (h : j < (Econf.mergeEntries us es).length), EntMem m3 fa' (7 * j) ((Econf.mergeEntries us es)[j]) [bk, bl']) ∧
      (∀ b, b < m.length → b ∉ [bk, bl0, fa, cell] → m3[b]? = m[b]?) ∧
      (∀ kb blk, m[bk]? = some kb → m3[bk]? = some blk → KfKeep kb blk) ∧
      (gl' ≠ [] → bk ≠ bl') ∧ (∀ x, x ∈ gl' → x.1 ≠ bk ∧ x.1 ≠ bl') ∧
      (∀ b, b < m.length → b ∉ [bk, bl0, fa] → m1[b]? = m[b]?) ∧ (∀ b, b < m.length → b ∉ [bk, bl0, fa] → m2[b]? = m[b]?) := by
  have hfalt : fa < m.length := (List.getElem?_eq_some_iff.1 ha1).1
  have hclt : cell < m.length := (List.getElem?_eq_some_iff.1 hc1).1
  have hbklt : bk < m.length := hG.bk_lt
  have hbllt : bl0 < m.length := hG.bl_lt
  have hE123 : (Econf.mergeEntries us es).length = (Econf.insertNoGroup us es).length + (Econf.mergeExisting us es).length + (Econf.addNewGroups us es).length := by
    simp [Econf.mergeEntries]; omega
  have hng := ngSel_model us es
  have hn1 : (ngSel us es).length = (Econf.insertNoGroup us es).length := by rw [← hng]; simp
  obtain ⟨m1, loc1, bl1, gl1, hex1, hG1, hnm1, hE1, hfr1, hlen1, hbl1, hkw1, hne1, hd1, hgl1, ⟨ablk1, b1, b2, b3, b4, b5⟩⟩ :=
    insert_nogroup_exec m bk bl0 fa cell bu bua be bea us es gl0 cap hUs.toKf husmall
      ⟨hEs, ⟨cblk, hc1, hc2, hc3⟩, hcav, hfalt, hbklt, hbllt, hfane, hcap2, by omega, hlines⟩ hG hkw hne hd ablk0 ha1 ha2 ha3 ha4 ha5 fuel (by omega)
  obtain ⟨kb0, hkb0, _⟩ := hG.obj
  obtain ⟨kb1, hkb1, _⟩ := hG1.obj
  have hav01 : ∀ b, b < m.length → b ∉ [bk, bl0, fa] → b ∉ [bk, bl1, fa] := fun b hb => avoid_moved hbl1 hb
  have hc1' : m1[cell]? = some cblk := by rw [hfr1 cell hclt hcav]; exact hc1
  obtain ⟨hroom2, hsmall2, hssmall2, hfuel2⟩ : (Econf.insertNoGroup us es).length + (Econf.mergeExisting us es).length ≤ cap ∧
      (gl1.length : Int) + (Econf.mergeExisting us es).length + es.length + 2 < 2147483648 ∧
      ((Econf.insertNoGroup us es).length : Int) + (Econf.mergeExisting us es).length + es.length + 1 < 18446744073709551616 ∧
      gl1.length + (Econf.mergeExisting us es).length + es.length + us.length + 2 < fuel := by omega
  have hctx2 : MeCtx m1 bk bl1 fa cell bu bua be bea us es gl1.length cap (Econf.insertNoGroup us es).length :=
    ⟨⟨⟨cblk, hc1', hc2, hc3⟩, hav01 cell hclt hcav, Nat.lt_of_lt_of_le hfalt hlen1, Nat.lt_of_lt_of_le hbklt hlen1, hG1.bl_lt,
        ⟨hfane.1, ne_of_same_or_new hbl1 hfalt hfane.2⟩⟩,
      hEs.transfer hfr1 hav01, hUs.transfer hfr1 hav01, hroom2, hsmall2, husmall, hesmall, hssmall2, hlines, hulines⟩
  obtain ⟨m2, loc2, bl2, gl2, hex2, hG2, hnm2, ⟨ablk2, c1, c2, c3, c4, c5, c6⟩, hE2, hfr2, hlen2, hbl2, hkw2, hne2, hd2, hgl2⟩ :=
    C_merge_existing_groups m1 bk bl1 fa cell bu bua be bea us es gl1 cap (Econf.insertNoGroup us es).length hctx2 hG1 (fun blk hb => (hkw1 kb0 blk hkb0 hb).1) hne1 hd1
      ablk1 b1 b2 b3 b4 b5 fuel hfuel2
  obtain ⟨kb2, hkb2, _⟩ := hG2.obj
  have hfr02 : ∀ b, b < m.length → b ∉ [bk, bl0, fa] → m2[b]? = m[b]? := fun b hb hav => by
    rw [hfr2 b (Nat.lt_of_lt_of_le hb hlen1) (hav01 b hb hav)]; exact hfr1 b hb hav
  have hav02 : ∀ b, b < m.length → b ∉ [bk, bl0, fa] → b ∉ [bk, bl2, fa] := fun b hb hav =>
    avoid_moved hbl2 (Nat.lt_of_lt_of_le hb hlen1) (hav01 b hb hav)
  have hc2' : m2[cell]? = some cblk := by rw [hfr02 cell hclt hcav]; exact hc1
  have hfa2 : fa ≠ bk ∧ fa ≠ bl2 := ⟨hfane.1, ne_of_same_or_new hbl2 (Nat.lt_of_lt_of_le hfalt hlen1) (ne_of_same_or_new hbl1 hfalt hfane.2)⟩
  have hn3 : (selBy (agP us) es es.length).length = (Econf.addNewGroups us es).length := by rw [← agSel_model us es]; simp
  obtain ⟨hroom3, hsmall3, hssmall3, hfuel3⟩ : (Econf.insertNoGroup us es).length + (Econf.mergeExisting us es).length + (selBy (agP us) es es.length).length ≤ cap ∧
      (gl2.length : Int) + es.length + 2 < 2147483648 ∧
      (((Econf.insertNoGroup us es).length + (Econf.mergeExisting us es).length : Nat) : Int) + es.length + 1 < 18446744073709551616 ∧
      gl2.length + es.length + us.length + 2 < fuel := by omega
  have hm2 : m.length ≤ m2.length := Nat.le_trans hlen1 hlen2
  have hctx3 : AgCtx m2 bk bl2 fa cell bu bua be bea us es gl2.length cap ((Econf.insertNoGroup us es).length + (Econf.mergeExisting us es).length) :=
    ⟨hEs.transfer hfr02 hav02, hUs.transfer hfr02 hav02, ⟨cblk, hc2', hc2, hc3⟩, hav02 cell hclt hcav, Nat.lt_of_lt_of_le hfalt hm2, Nat.lt_of_lt_of_le hbklt hm2, hG2.bl_lt,
      hfa2, hroom3, hsmall3, husmall, hssmall3, hcsmall, hlines⟩
  obtain ⟨m3, loc3, bl3, gl3, fa', hex3, hG3, hnm3, hcell3, ⟨ablk3, e1, e2, e6⟩, hE3, hfr3, hlen3, hbl3, hfa3a, hfa3b, hkw3, hne3, hd3⟩ :=
    C_add_new_groups m2 bk bl2 fa cell bu bua be bea us es gl2 cap ((Econf.insertNoGroup us es).length + (Econf.mergeExisting us es).length) hctx3
      (fun cb hcb => by rw [hc2'] at hcb; injection hcb with hcb; subst hcb; exact ⟨hc4, hc5⟩) hG2 (fun blk hb => (hkw2 kb1 blk hkb1 hb).1) hne2 hd2 ablk2 c1 c2 c3 c4 c5 fuel hfuel3
  have hfa3 : fa' ≠ bk ∧ fa' ≠ bl3 := ⟨hfa3a, hfa3b⟩
  refine ⟨m1, m2, m3, loc1, loc2, loc3, bl3, gl3, fa', by rw [← hn1]; exact hex1, hex2, by rw [hE123]; exact hex3, hG3, ?_, hcell3, ?_, ?_,
    fun kb blk hk hb => ((hkw1 kb kb1 hk hkb1).trans (hkw2 kb1 kb2 hkb1 hkb2)).trans (hkw3 kb2 blk hkb2 hb), hne3, hd3, hfr1, hfr02⟩
  · -- the group list
    rw [hnm3, hnm2, hnm1, hn1, ← foldl_addGroup_none (gl0.map (·.2)) (Econf.insertNoGroup us es) (insertNoGroup_groups us es)]
    simp [Econf.mergeEntries, List.map_append, List.foldl_append]
  · have hE1' : ∀ j (h : j < (Econf.insertNoGroup us es).length), EntMem m1 fa (7 * j) (Econf.insertNoGroup us es)[j] [bk, bl1] := fun j h => by
      have : (Econf.insertNoGroup us es)[j] = Econf.cpyEntry ((ngSel us es)[j]'(hn1 ▸ h)) := by simp [← hng]
      rw [this]; exact hE1 j (hn1 ▸ h)
    exact merge3_ents (Econf.insertNoGroup us es) (Econf.mergeExisting us es) (Econf.addNewGroups us es) hE1' hE2 hE3 b1 b4 c1 c2 c4 c6 hfr2 hbl2
      hfa2 e1 e2 e6 hfr3 (no_cstr hc2' hc5) hbl3 hfa3
  · intro b hb hav
    simp only [List.mem_cons, List.not_mem_nil, or_false, not_or] at hav
    have h0 : b ∉ [bk, bl0, fa] := by simp only [List.mem_cons, List.not_mem_nil, or_false, not_or]; exact ⟨hav.1, hav.2.1, hav.2.2.1⟩
    have h2 := hav02 b hb h0
    simp only [List.mem_cons, List.not_mem_nil, or_false, not_or] at h2
    rw [hfr3 b (Nat.lt_of_lt_of_le hb hm2) (by simp only [List.mem_cons, List.not_mem_nil, or_false, not_or]; exact ⟨h2.1, h2.2.1, h2.2.2, hav.2.2.2⟩)]
    exact hfr02 b hb h0

/-- … with an empty group list and the array `econf_mergeFiles` allocates (`etc->length + usr->length` entries, enough by the list-level bound
    `C03_bound`).  Array and group list are then the `entries` and `groups` of the model's `mergeFiles`.
    (`GlMem m bk bl0 []` holds for an object with an allocated array of one terminating slot and, with `bl0 = bk`, for the object
    `econf_mergeFiles` has just made, whose `groups` is `NULL`: see `C_merge3_fresh`.) -/
theorem C_merge3_mergeFiles (m : Mem) (bk bl0 fa cell bu bua be bea : Nat) (us es : List Econf.Entry)
    (hUs : SrcMem m bu bua us [bk, bl0, fa]) (hEs : SrcMem m be bea es [bk, bl0, fa])
    (cblk : Block) (hc1 : m[cell]? = some cblk) (hc2 : cblk.live = true) (hc3 : cblk.slots[0]? = some (.ptr fa 0)) (hc4 : cblk.writable = true) (hc5 : cblk.cells = [])
    (hcav : cell ∉ [bk, bl0, fa]) (hfane : fa ≠ bk ∧ fa ≠ bl0)
    (hG : GlMem m bk bl0 []) (hkw : ∀ blk, m[bk]? = some blk → blk.writable = true)
    (ablk0 : Block) (ha1 : m[fa]? = some ablk0) (ha2 : ablk0.live = true) (ha3 : ablk0.writable = true) (ha4 : ablk0.cells = [])
    (ha5 : ablk0.slots.length = 7 * (es.length + us.length))
    (hsmall : (us.length : Int) + 2 * es.length + 2 < 2147483648)
    (hlines : ∀ e ∈ es, (e.line : Int) < 18446744073709551616) (hulines : ∀ e ∈ us, (e.line : Int) < 18446744073709551616)
    (fuel : Nat) (hf : 2 * es.length + 2 * us.length + 4 < fuel) :
    ∃ m1 m2 m3 loc1 loc2 loc3 bl' gl' fa' n1 n2,
      exec fuel LeafFns.insert_nogroup.body { mem := m, loc := [.ptr bk 0, .ptr cell 0, .ptr bu 0, .ptr be 0, .undef, .undef, .undef, .undef, .undef] } =
        .ret (.int (n1 : Int)) { mem := m1, loc := loc1 } ∧
      exec fuel LeafFns.merge_existing_groups.body { mem := m1, loc := [.ptr bk 0, .ptr cell 0, .ptr bu 0, .ptr be 0, .int (n1 : Int)] ++ List.replicate 10 .undef } =
        .ret (.int (n2 : Int)) { mem := m2, loc := loc2 } ∧
      exec fuel LeafFns.add_new_groups.body { mem := m2, loc := [.ptr bk 0, .ptr cell 0, .ptr bu 0, .ptr be 0, .int (n2 : Int), .undef, .undef, .undef, .undef, .undef] } =
        .ret (.int ((Econf.mergeEntries us es).length : Int)) { mem := m3, loc := loc3 } ∧
      GlMem m3 bk bl' gl' ∧ gl'.map (·.2) = Econf.groupsOf (Econf.mergeEntries us es) ∧
      (∃ cblk', m3[cell]? = some cblk' ∧ cblk'.live = true ∧ cblk'.slots[0]? = some (.ptr fa' 0)) ∧
      (∀ j (h : j < (Econf.mergeEntries us es).length), EntMem m3 fa' (7 * j) ((Econf.mergeEntries us es)[j]) [bk, bl']) ∧
      (∀ b, b < m.length → b ∉ [bk, bl0, fa, cell] → m3[b]? = m[b]?) ∧
      n1 = (Econf.insertNoGroup us es).length ∧ n2 = n1 + (Econf.mergeExisting us es).length ∧
      (∀ kb blk, m[bk]? = some kb → m3[bk]? = some blk → KfKeep kb blk) ∧
      (gl' ≠ [] → bk ≠ bl') ∧ (∀ x, x ∈ gl' → x.1 ≠ bk ∧ x.1 ≠ bl') ∧
      (∀ b, b < m.length → b ∉ [bk, bl0, fa] → m1[b]? = m[b]?) ∧ (∀ b, b < m.length → b ∉ [bk, bl0, fa] → m2[b]? = m[b]?) := by
  have hb := Econf.C03_bound us es
  obtain ⟨m1, m2, m3, loc1, loc2, loc3, bl', gl', fa', h1, h2, h3, hG3, hn, hc, hE, hfr, hkeep, hne3, hd3, hfr1, hfr2⟩ :=
    C_merge3 m bk bl0 fa cell bu bua be bea us es [] (es.length + us.length) hUs hEs cblk hc1 hc2 hc3 hc4 hc5 hcav hfane hG hkw (fun h => absurd rfl h) (by simp)
      ablk0 ha1 ha2 ha3 ha4 ha5 (by omega) (by omega) (by simp; omega) (by omega) (by omega) (by omega) hlines hulines fuel (by simp; omega)
  refine ⟨m1, m2, m3, loc1, loc2, loc3, bl', gl', fa', _, _, h1, h2, h3, hG3, ?_, hc, hE, hfr, rfl, rfl, hkeep, hne3, hd3, hfr1, hfr2⟩
  rw [hn]
  simp [Econf.groupsOf, List.foldl_map]

/-- **The three calls on the object `econf_mergeFiles` has just made** (`calloc`: `groups == NULL`, `group_count == 0`): the first
    `setGroupList` allocates the group array through `realloc(NULL, …)`.  No group array is among the hypotheses: the base and the override
    live apart from the object `bk` and the new entry array `fa`, the cell `*fe` is neither of them; afterwards every block of the caller
    other than `bk`, `fa` and the cell is unchanged. -/
theorem C_merge3_fresh (m : Mem) (bk fa cell bu bua be bea : Nat) (us es : List Econf.Entry)
    (hUs : SrcMem m bu bua us [bk, fa]) (hEs : SrcMem m be bea es [bk, fa])
    (cblk : Block) (hc1 : m[cell]? = some cblk) (hc2 : cblk.live = true) (hc3 : cblk.slots[0]? = some (.ptr fa 0)) (hc4 : cblk.writable = true) (hc5 : cblk.cells = [])
    (hcav : cell ∉ [bk, fa]) (hfane : fa ≠ bk)
    (hG : GlNull m bk) (hkw : ∀ blk, m[bk]? = some blk → blk.writable = true)
    (ablk0 : Block) (ha1 : m[fa]? = some ablk0) (ha2 : ablk0.live = true) (ha3 : ablk0.writable = true) (ha4 : ablk0.cells = [])
    (ha5 : ablk0.slots.length = 7 * (es.length + us.length))
    (hsmall : (us.length : Int) + 2 * es.length + 2 < 2147483648)
    (hlines : ∀ e ∈ es, (e.line : Int) < 18446744073709551616) (hulines : ∀ e ∈ us, (e.line : Int) < 18446744073709551616)
    (fuel : Nat) (hf : 2 * es.length + 2 * us.length + 4 < fuel) :
    ∃ m1 m2 m3 loc1 loc2 loc3 bl' gl' fa' n1 n2,
      exec fuel LeafFns.insert_nogroup.body { mem := m, loc := [.ptr bk 0, .ptr cell 0, .ptr bu 0, .ptr be 0, .undef, .undef, .undef, .undef, .undef] } =
        .ret (.int (n1 : Int)) { mem := m1, loc := loc1 } ∧
      exec fuel LeafFns.merge_existing_groups.body { mem := m1, loc := [.ptr bk 0, .ptr cell 0, .ptr bu 0, .ptr be 0, .int (n1 : Int)] ++ List.replicate 10 .undef } =
        .ret (.int (n2 : Int)) { mem := m2, loc := loc2 } ∧
      exec fuel LeafFns.add_new_groups.body { mem := m2, loc := [.ptr bk 0, .ptr cell 0, .ptr bu 0, .ptr be 0, .int (n2 : Int), .undef, .undef, .undef, .undef, .undef] } =
        .ret (.int ((Econf.mergeEntries us es).length : Int)) { mem := m3, loc := loc3 } ∧
      GlMem m3 bk bl' gl' ∧ gl'.map (·.2) = Econf.groupsOf (Econf.mergeEntries us es) ∧
      (∃ cblk', m3[cell]? = some cblk' ∧ cblk'.live = true ∧ cblk'.slots[0]? = some (.ptr fa' 0)) ∧
      (∀ j (h : j < (Econf.mergeEntries us es).length), EntMem m3 fa' (7 * j) ((Econf.mergeEntries us es)[j]) [bk, bl']) ∧
      (∀ b, b < m.length → b ∉ [bk, fa, cell] → m3[b]? = m[b]?) ∧
      n1 = (Econf.insertNoGroup us es).length ∧ n2 = n1 + (Econf.mergeExisting us es).length ∧
      (∀ kb blk, m[bk]? = some kb → m3[bk]? = some blk → KfKeep kb blk) ∧
      (gl' ≠ [] → bk ≠ bl') ∧ (∀ x, x ∈ gl' → x.1 ≠ bk ∧ x.1 ≠ bl') ∧
      (∀ b, b < m.length → b ∉ [bk, fa] → m1[b]? = m[b]?) ∧ (∀ b, b < m.length → b ∉ [bk, fa] → m2[b]? = m[b]?) := by
  have hav : ∀ b, b < m.length → b ∉ [bk, fa] → b ∉ [bk, bk, fa] := by
    intro b _ h
    simp only [List.mem_cons, List.not_mem_nil, or_false, not_or] at h ⊢
    exact ⟨h.1, h.1, h.2⟩
  have hcav' : cell ∉ [bk, bk, fa] := by
    simp only [List.mem_cons, List.not_mem_nil, or_false, not_or] at hcav ⊢
    exact ⟨hcav.1, hcav.1, hcav.2⟩
  obtain ⟨m1, m2, m3, loc1, loc2, loc3, bl', gl', fa', n1, n2, h1, h2, h3, hG3, hn, hc, hE, hfr, hn1, hn2, hkeep, hne3, hd3, hfr1, hfr2⟩ :=
    C_merge3_mergeFiles m bk bk fa cell bu bua be bea us es (hUs.transfer (fun _ _ _ => rfl) hav) (hEs.transfer (fun _ _ _ => rfl) hav)
      cblk hc1 hc2 hc3 hc4 hc5 hcav' ⟨hfane, hfane⟩ hG.toGlMem hkw ablk0 ha1 ha2 ha3 ha4 ha5 hsmall hlines hulines fuel hf
  refine ⟨m1, m2, m3, loc1, loc2, loc3, bl', gl', fa', n1, n2, h1, h2, h3, hG3, hn, hc, hE, fun b hb hav' => hfr b hb ?_, hn1, hn2, hkeep, hne3, hd3, fun b hb h => hfr1 b hb (hav b hb h), fun b hb h => hfr2 b hb (hav b hb h)⟩
  simp only [List.mem_cons, List.not_mem_nil, or_false, not_or] at hav' ⊢
  exact ⟨hav'.1, hav'.1, hav'.2.1, hav'.2.2⟩

end LeafKf

namespace LeafKf.Example

theorem model_merge : Econf.mergeEntries us es = [
    { group := Econf.NONE, key := [120], value := some [50], cb := none, ca := some [99], line := 2, quotes := false },
    { group := [65], key := [107], value := some [49], cb := none, ca := none, line := 1, quotes := false },
    { group := [66], key := [121], value := none, cb := none, ca := none, line := 5, quotes := false }] := by
  decide

/-- the three calls in sequence on the concrete memory of this section: every hypothesis of `C_merge3` is met, the array ends up with the
    model's three entries (the group-less one first, the base's entry, the entry of the new group) and the group list with their groups -/
theorem run_merge3 : ∃ m1 m2 m3 loc1 loc2 loc3 bl' gl' fa',
    exec 20 LeafFns.insert_nogroup.body { mem := mem, loc := [.ptr 0 0, .ptr 2 0, .ptr 4 0, .ptr 9 0, .undef, .undef, .undef, .undef, .undef] } =
      .ret (.int 1) { mem := m1, loc := loc1 } ∧
    exec 20 LeafFns.merge_existing_groups.body { mem := m1, loc := [.ptr 0 0, .ptr 2 0, .ptr 4 0, .ptr 9 0, .int 1] ++ List.replicate 10 .undef } =
      .ret (.int 2) { mem := m2, loc := loc2 } ∧
    exec 20 LeafFns.add_new_groups.body { mem := m2, loc := [.ptr 0 0, .ptr 2 0, .ptr 4 0, .ptr 9 0, .int 2, .undef, .undef, .undef, .undef, .undef] } =
      .ret (.int 3) { mem := m3, loc := loc3 } ∧
    GlMem m3 0 bl' gl' ∧ gl'.map (·.2) = [Econf.NONE, [65], [66]] ∧
    (∃ cblk', m3[2]? = some cblk' ∧ cblk'.live = true ∧ cblk'.slots[0]? = some (.ptr fa' 0)) ∧
    EntMem m3 fa' 7 { group := [65], key := [107], value := some [49], cb := none, ca := none, line := 1, quotes := false } [0, bl'] := by
  obtain ⟨m1, m2, m3, loc1, loc2, loc3, bl', gl', fa', h1, h2, h3, hG, hn, hc, hE, _⟩ :=
    C_merge3 mem 0 1 3 2 4 5 9 10 us es [] 3 base_full override_ok _ rfl rfl rfl rfl rfl (by decide) (by decide) dest_ok
      (fun blk hb => by cases hb; rfl) (by decide) (fun x hx => by cases hx) _ rfl rfl rfl rfl rfl
      (by rw [model_merge]; decide) (by decide) (by rw [model_merge]; decide) (by decide) (by decide) (by decide)
      (fun e he => by simp [es] at he; rcases he with rfl | rfl | rfl <;> decide)
      (fun e he => by simp [us] at he; subst he; decide) 20 (by rw [model_merge]; decide)
  have hi : (Econf.insertNoGroup us es).length = 1 := by decide
  have hm : (Econf.mergeExisting us es).length = 1 := by decide
  rw [hi] at h1 h2 h3
  rw [hm] at h2 h3
  rw [model_merge] at h3 hn hE
  refine ⟨m1, m2, m3, loc1, loc2, loc3, bl', gl', fa', h1, h2, h3, hG, ?_, hc, ?_⟩
  · rw [hn]; decide
  · simpa using hE 1 (by simp)

/-! The same caller's memory with the destination as `calloc` leaves it – `groups == NULL`, no group array (block 1 is dead) – and the
    entry array `econf_mergeFiles` allocates (`etc->length + usr->length` = 4 entries). -/

def memN : Mem :=
  { cells := [], slots := kfSlots .null 0 .null 0 } :: { cells := [], live := false } :: { cells := [], slots := [.ptr 3 0] } ::
    { cells := [], slots := List.replicate 28 .undef } :: mem.drop 4

theorem memN_other : ∀ b, b < mem.length → b ∉ [0, 1, 3] → memN[b]? = mem[b]? := by
  intro b _ hav
  match b with
  | 0 => simp at hav
  | 1 => simp at hav
  | 2 => rfl
  | 3 => simp at hav
  | k + 4 => rfl

theorem dest_null : GlNull memN 0 := ⟨_, rfl, rfl, rfl, rfl⟩

/-- every hypothesis of `C_merge3_fresh` is met by it, and the three calls (the first `setGroupList` goes through `realloc(NULL, …)`)
    leave the model's three entries and their three groups -/
theorem run_merge3_fresh : ∃ m1 m2 m3 loc1 loc2 loc3 bl' gl' fa',
    exec 20 LeafFns.insert_nogroup.body { mem := memN, loc := [.ptr 0 0, .ptr 2 0, .ptr 4 0, .ptr 9 0, .undef, .undef, .undef, .undef, .undef] } =
      .ret (.int 1) { mem := m1, loc := loc1 } ∧
    exec 20 LeafFns.merge_existing_groups.body { mem := m1, loc := [.ptr 0 0, .ptr 2 0, .ptr 4 0, .ptr 9 0, .int 1] ++ List.replicate 10 .undef } =
      .ret (.int 2) { mem := m2, loc := loc2 } ∧
    exec 20 LeafFns.add_new_groups.body { mem := m2, loc := [.ptr 0 0, .ptr 2 0, .ptr 4 0, .ptr 9 0, .int 2, .undef, .undef, .undef, .undef, .undef] } =
      .ret (.int 3) { mem := m3, loc := loc3 } ∧
    GlMem m3 0 bl' gl' ∧ gl'.map (·.2) = [Econf.NONE, [65], [66]] ∧
    (∃ cblk', m3[2]? = some cblk' ∧ cblk'.live = true ∧ cblk'.slots[0]? = some (.ptr fa' 0)) ∧
    EntMem m3 fa' 7 { group := [65], key := [107], value := some [49], cb := none, ca := none, line := 1, quotes := false } [0, bl'] := by
  have hav : ∀ b, b < mem.length → b ∉ [0, 1, 3] → b ∉ [0, 3] := by
    intro b _ h
    simp only [List.mem_cons, List.not_mem_nil, or_false, not_or] at h ⊢
    exact ⟨h.1, h.2.2⟩
  obtain ⟨m1, m2, m3, loc1, loc2, loc3, bl', gl', fa', n1, n2, h1, h2, h3, hG, hn, hc, hE, _, hn1, hn2, _⟩ :=
    C_merge3_fresh memN 0 3 2 4 5 9 10 us es (base_full.transfer memN_other hav) (override_ok.transfer memN_other hav)
      _ rfl rfl rfl rfl rfl (by decide) (by decide) dest_null (fun blk hb => by cases hb; rfl) _ rfl rfl rfl rfl rfl (by decide)
      (fun e he => by simp [es] at he; rcases he with rfl | rfl | rfl <;> decide)
      (fun e he => by simp [us] at he; subst he; decide) 20 (by decide)
  have hi : (Econf.insertNoGroup us es).length = 1 := by decide
  have hm : (Econf.mergeExisting us es).length = 1 := by decide
  rw [hi] at hn1; subst hn1
  rw [hm] at hn2; subst hn2
  rw [model_merge] at h3 hE
  have hg : Econf.groupsOf (Econf.mergeEntries us es) = [Econf.NONE, [65], [66]] := by rw [model_merge]; decide
  rw [hg] at hn
  exact ⟨m1, m2, m3, loc1, loc2, loc3, bl', gl', fa', h1, h2, h3, hG, hn, hc, by simpa using hE 1 (by simp)⟩

end LeafKf.Example
