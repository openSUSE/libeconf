import Econf.Lemmas.LayeredLemmas

/-!
  C16 — owner, group and symlink restrictions gate every file of every read.

  Every file of every read entry point goes through `readFileCB`; between `lstat` and the
  callback stands `gate`, which looks at the consulted directory entry itself (for a symbolic link:
  the link, not its target) and at the process-wide restriction flags.
-/

namespace Econf

theorem linkRule_eq_false {allow link : Bool} (h : ¬(allow = false ∧ link = true)) : (!allow && link) = false := by
  cases allow <;> cases link <;> simp at h ⊢

theorem idRule_eq_false {set : Bool} {x y : Nat} (h : ¬(set = true ∧ x ≠ y)) : (set && x != y) = false := by
  cases set <;> simp at h ⊢
  exact h

theorem idRule_eq_true {set : Bool} {x y : Nat} (hs : set = true) (h : x ≠ y) : (set && x != y) = true := by
  simp [hs, h]

/-- what the gate answers, restriction by restriction, in the order the library checks them -/
theorem C16_gate (g : Global) (node : Node) :
    (g.allowSymlinks = false → isLinkNode node = true → gate g node = some .fileIsSymLink) ∧
    (¬(g.allowSymlinks = false ∧ isLinkNode node = true) → g.ownerSet = true → (ownerOf node).1 ≠ g.owner → gate g node = some .wrongOwner) ∧
    (¬(g.allowSymlinks = false ∧ isLinkNode node = true) → ¬(g.ownerSet = true ∧ (ownerOf node).1 ≠ g.owner) →
       g.groupSet = true → (ownerOf node).2 ≠ g.group → gate g node = some .wrongGroup) ∧
    (¬(g.allowSymlinks = false ∧ isLinkNode node = true) → ¬(g.ownerSet = true ∧ (ownerOf node).1 ≠ g.owner) →
       ¬(g.groupSet = true ∧ (ownerOf node).2 ≠ g.group) → g.permsSet = false → gate g node = none) :=
  ⟨fun h1 h2 => gate_link g node (by rw [h1, h2]; rfl),
   fun h1 h2 h3 => gate_owner g node (linkRule_eq_false h1) (idRule_eq_true h2 h3),
   fun h1 h2 h3 h4 => gate_group g node (linkRule_eq_false h1) (idRule_eq_false h2) (idRule_eq_true h3 h4),
   fun h1 h2 h3 hp => gate_pass g node (linkRule_eq_false h1) (idRule_eq_false h2) (idRule_eq_false h3) hp⟩

/-- the owner, group and symbolic-link decisions do not depend on whether `econf_requirePermissions`
    is in force as well, nor on the bits it asks for: when one of the three rules refuses a file, the
    gate gives the same code under every permission requirement (the permission checks come last) -/
theorem C16_perms_irrelevant (g : Global) (node : Node) (ps : Bool) (pf pd : Nat) (e : Err)
    (h : gate { g with permsSet := false } node = some e) :
    gate { g with permsSet := ps, permsFile := pf, permsDir := pd } node = some e := by
  rcases gate_rules g node with ⟨e', _, hr⟩ | hr
  · exact (hr ps pf pd).trans ((hr false g.permsFile g.permsDir).symm.trans h)
  · cases (hr false g.permsFile g.permsDir).symm.trans h

/-- the permission requirement itself: a file that passes the three rules is refused when it has none
    of the required file bits, or its directory none of the required directory bits -/
theorem C16_perms (g : Global) (node : Node) (h : gate { g with permsSet := false } node = none) (hp : g.permsSet = true) :
    gate g node =
      (if (modeOf node &&& g.permsFile) == 0 then some .wrongFilePermission
       else if (DIRMODE &&& g.permsDir) == 0 then some .wrongDirPermission else none) := by
  rcases gate_rules g node with ⟨e', _, hr⟩ | hr
  · cases (hr false g.permsFile g.permsDir).symm.trans h
  · refine (hr g.permsSet g.permsFile g.permsDir).trans ?_
    rw [hp]
    rfl

/-- a refused file is neither shown to the callback nor opened, its content never reaches a result,
    and the read of that file ends with the specific code -/
theorem C16_refused (ctx : RdCtx) (s : RdState) (join python : Bool) (path delim comment : Str) (node : Node) (e : Err)
    (hl : ctx.fs.lstat path = some node) (hg : gate s.g node = some e) :
    readFileCB ctx s join python path delim comment = (s, .error e) :=
  readFileCB_refused ctx hl hg

/-- after the reset call every file passes the gate -/
theorem C16_reset (g : Global) (node : Node) : gate (resetSecurity g) node = none :=
  gate_pass (resetSecurity g) node rfl rfl rfl rfl

/-- if every file that can be consulted satisfies the rules in force, the read returns what the
    unrestricted read (after the reset call) returns — for the history of a layered read … -/
theorem C16_all_pass_history (fs : FS) (s : RdState) (dirs : List Str) (name suffix : Option Str) (delim : Option Str)
    (comment : Str) (join python : Bool) (confDirs : List Str)
    (hpass : ∀ p node, fs.lstat p = some node → gate s.g node = none) :
    (readHistory { fs := fs, cb := none } s dirs name suffix delim comment join python confDirs).2 =
      (readHistory { fs := fs, cb := none } { s with g := resetSecurity s.g } dirs name suffix delim comment join python confDirs).2 :=
  (readHistory_sim fs none none (fun _ _ _ => rfl) s { s with g := resetSecurity s.g } rfl dirs name suffix delim comment join python confDirs
    (fun p node hn => by rw [hpass p node hn, C16_reset])).1

/-- … and for a single file -/
theorem C16_all_pass_file (fs : FS) (s : RdState) (join python : Bool) (path delim comment : Str)
    (hpass : ∀ node, fs.lstat path = some node → gate s.g node = none) :
    (readFileCB { fs := fs, cb := none } s join python path delim comment).2 =
      (readFileCB { fs := fs, cb := none } { s with g := resetSecurity s.g } join python path delim comment).2 :=
  readFileCB_sim fs none none s { s with g := resetSecurity s.g } join python path delim comment
    (fun node hn => by rw [hpass node hn, C16_reset]) rfl

/-- the first refused file of a sequence ends the read with its code; no later file is touched -/
theorem C16_first_refused (ctx : RdCtx) (s : RdState) (join python : Bool) (delim comment : Str) (p : Str) (ps : List Str)
    (node : Node) (e : Err) (hl : ctx.fs.lstat p = some node) (hg : gate s.g node = some e) :
    readSeq ctx join python delim comment s (p :: ps) = (s, .error e) :=
  readSeq_cons_error ctx ps (readFileCB_refused ctx hl hg)

/-- non-vacuity: a foreign-owned symbolic link under "owner 0, no symlinks" is refused as a link -/
example : gate { ownerSet := true, owner := 0, allowSymlinks := false } (.link [0x2f, 0x78] 4242 0) = some .fileIsSymLink ∧
    gate { ownerSet := true, owner := 0 } (.link [0x2f, 0x78] 4242 0) = some .wrongOwner ∧
    gate { ownerSet := true, owner := 0 } (.file [] 0 7) = none ∧
    gate { ownerSet := true, owner := 0, permsSet := true, permsFile := 0o644, permsDir := 0o755 } (.file [] 4242 0) = some .wrongOwner ∧
    gate { permsSet := true, permsFile := 0o001, permsDir := 0o755 } (.file [] 0 0) = some .wrongFilePermission := by decide

end Econf
