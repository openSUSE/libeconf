import Econf.Layered
import Econf.Lemmas.LayeredLemmas
import Econf.Lemmas.OwnLemmas

/-!
  # C20 – out-pointer discipline of the read entry points (the part of C20 a model can carry)

  C20 has two halves.  *Release exactly once, nothing left, nothing read uninitialised* is a
  statement about the C heap.  At the granularity of `econf_file` objects it is proved in the second part of
  this file for the ownership model `Econf/Own.lean` (which object is created, handed on and released on which
  path; tied to the library by the hook `econf_verif_object_hook` and the event-by-event comparison of the
  correspondence run); below that granularity (the strings and arrays inside an object, uninitialised reads)
  it is decided by the correspondence harness (ASan/UBSan, live-byte accounting at MARK/LEAK, with a
  failure injected at every consulted file in turn), see DESIGN.md 10.4.  *Each out-pointer is
  afterwards NULL, left as the caller initialised it, or a valid object* is decision logic of the
  entry points and is proved below for the layered-read model, for every file system, callback,
  security setting and argument; the harness compares the same out-pointer states (`SLOT` lines)
  with the model on every scenario.
-/

namespace Econf

/-- `econf_readFile`: an object exactly on success, NULL on every failure -/
theorem C20_readFile_out (ctx : RdCtx) (s : RdState) (p d c : Option Str) :
    let r := readFile ctx s p d c
    (r.2.1 = .success ↔ r.2.2.isSome) := by
  intro r
  simp only [r]
  unfold readFile
  cases p with
  | none => simp
  | some p =>
    cases d with
    | none => simp
    | some d =>
      cases c with
      | none => simp
      | some c =>
        simp only
        have hne := readFileCB_ne_success ctx s false false p d c
        generalize readFileCB ctx s false false p d c = q at hne
        obtain ⟨q1, q2⟩ := q
        cases q2 with
        | ok kf => simp
        | error e => simp only [Option.isSome_none, Bool.false_eq_true, iff_false]; exact hne e rfl

/-- `econf_readConfig`: on success a valid (merged) object; on failure NULL when the caller passed
    NULL, and the caller's own object (with the directories filled in) when the caller passed one –
    never a partial result -/
theorem C20_readConfig_out (ctx : RdCtx) (s : RdState) (slot : Option KeyFile)
    (project usr name suffix delim : Option Str) (comment : Str) :
    let r := readConfig ctx s slot project usr name suffix delim comment
    (r.2.1 = .success → r.2.2.isSome) ∧
    (r.2.1 ≠ .success → r.2.2 = if slot.isNone then none else some (prepareConfig (slot.getD {}) project usr name).1) := by
  intro r
  simp only [r]
  unfold readConfig
  simp only
  have hne := readConfigCore_ne_success ctx s (prepareConfig (slot.getD {}) project usr name).1
    (prepareConfig (slot.getD {}) project usr name).2 suffix delim comment
  generalize readConfigCore ctx s (prepareConfig (slot.getD {}) project usr name).1
    (prepareConfig (slot.getD {}) project usr name).2 suffix delim comment = q at hne
  obtain ⟨q1, q2⟩ := q
  cases q2 with
  | ok m => simp
  | error e =>
    refine ⟨fun h => absurd h (hne e rfl), fun _ => ?_⟩
    simp only

/-- a history handed to the caller is never empty -/
theorem C20_history_out (ctx : RdCtx) (s : RdState) (dirs : List Str) (name suffix delim : Option Str)
    (comment : Str) (join python : Bool) (confDirs : List Str) (files : List KeyFile)
    (h : (readHistory ctx s dirs name suffix delim comment join python confDirs).2 = .ok files) : files ≠ [] :=
  readHistory_nonempty ctx s dirs name suffix delim comment join python confDirs files h

/-- the merge pipeline turns every non-empty history into an object -/
theorem C20_merge_out (files : List KeyFile) (h : files ≠ []) : (mergeHistory files).isSome := by
  cases files with
  | nil => exact absurd rfl h
  | cons k ks => rfl


/-! ## Object ledger of the read entry points

`Takes L evs P` (Lemmas/OwnLemmas.lean): replaying the object events `evs` from the live objects `L` never
creates an id twice, never releases an object that is not alive (released twice, or never created), and
afterwards exactly the ids with `P` are alive.  `Bnd L n`: the ids in `L` are below the allocation counter.
Each theorem holds for every file system, callback, restriction setting and argument (NULL included). -/

/-- id of the object a pointer holds -/
def ptrId (p : Option (Nat × KeyFile)) : Option Nat := p.map Prod.fst

theorem C20_readConfig_ledger (ctx : RdCtx) (o : OSt) (slot : Option (Nat × KeyFile))
    (project usr name suffix delim : Option Str) (comment : Str) (L : List Nat)
    (hb : Bnd L o.next) (hs : ∀ s, slot = some s → s.1 ∈ L) :
    ∃ evs, (ownReadConfig ctx o slot project usr name suffix delim comment).1.log = o.log ++ evs ∧
      Takes L evs (fun i => (i ∈ L ∧ some i ≠ ptrId slot) ∨
        some i = ptrId (ownReadConfig ctx o slot project usr name suffix delim comment).2.2) := by
  unfold ownReadConfig
  cases slot with
  | none =>
    simp only
    obtain ⟨evs, h1, -, h3⟩ := ownReadConfigCore_new ctx o (prepareConfig {} project usr name).1
      (prepareConfig {} project usr name).2 suffix delim comment
    have h := h3 L hb
    generalize ownReadConfigCore ctx o.alloc.1 o.alloc.2 _ _ suffix delim comment = q at h1 h ⊢
    obtain ⟨o1, r⟩ := q
    cases r with
    | ok m => exact ⟨evs, h1, h.congr fun i => or_congr (and_iff_left (Option.some_ne_none i)).symm Option.some_inj.symm⟩
    | error e =>
      have hlog : (o1.release o.alloc.2).log = o.log ++ (evs ++ [OEv.free o.next]) :=
        (congrArg (· ++ [OEv.free o.next]) h1).trans (List.append_assoc ..)
      refine ⟨evs ++ [OEv.free o.next], hlog, ?_⟩
      refine Takes.append h fun L' hL' => (Takes.free ((hL' _).2 (Or.inr rfl))).congr fun i => ?_
      rw [hL' i]
      exact (hb.without_new i).trans
        ((and_iff_left (Option.some_ne_none i)).symm.trans (or_iff_left (Option.some_ne_none i)).symm)
  | some s =>
    obtain ⟨id, kf⟩ := s
    simp only
    have hid : id ∈ L := hs (id, kf) rfl
    obtain ⟨evs, h1, -, h3⟩ := ownReadConfigCore_spec ctx o id (prepareConfig kf project usr name).1
      (prepareConfig kf project usr name).2 suffix delim comment
    have h := h3 L hb hid
    generalize ownReadConfigCore ctx o id _ _ suffix delim comment = q at h1 h ⊢
    obtain ⟨o1, r⟩ := q
    cases r with
    | ok m =>
      exact ⟨evs, h1, h.1.congr fun i => or_congr (and_congr_right' (not_congr Option.some_inj).symm) Option.some_inj.symm⟩
    | error e =>
      exact ⟨evs, h1, h.congr fun i => (and_not_or_iff fun h => Option.some.inj h ▸ hid).symm⟩

theorem C20_readDirs_ledger (ctx : RdCtx) (o : OSt) (usr etc name suffix delim : Option Str) (comment : Str) (L : List Nat)
    (hb : Bnd L o.next) :
    ∃ evs, (ownReadDirs ctx o usr etc name suffix delim comment).1.log = o.log ++ evs ∧
      Takes L evs (fun i => i ∈ L ∨ some i = ptrId (ownReadDirs ctx o usr etc name suffix delim comment).2.2) := by
  unfold ownReadDirs
  simp only
  obtain ⟨evs, h1, -, h3⟩ := ownReadConfigCore_new ctx o { parseDirs := [usr.getD [], etc.getD []] } name suffix delim comment
  have h := h3 L hb
  generalize ownReadConfigCore ctx o.alloc.1 o.alloc.2 _ name suffix delim comment = q at h1 h ⊢
  obtain ⟨o1, r⟩ := q
  cases r with
  | ok m => exact ⟨evs, h1, h.congr fun i => or_congr_right Option.some_inj.symm⟩
  | error e => exact ⟨evs, h1, h.congr fun i => or_congr_right Option.some_inj.symm⟩

theorem C20_readFile_ledger (ctx : RdCtx) (o : OSt) (path delim comment : Option Str) (L : List Nat) (hb : Bnd L o.next) :
    ∃ evs, (ownReadFile ctx o path delim comment).1.log = o.log ++ evs ∧
      Takes L evs (fun i => i ∈ L ∨ some i = ptrId (ownReadFile ctx o path delim comment).2.2) := by
  have hnone : ∀ i, i ∈ L ↔ i ∈ L ∨ some i = ptrId none := fun i => (or_iff_left (Option.some_ne_none i)).symm
  -- an argument is NULL: the object is released again
  have hnull : ∃ evs, (o.alloc.1.release o.alloc.2).log = o.log ++ evs ∧ Takes L evs (fun i => i ∈ L ∨ some i = ptrId none) :=
    ⟨[OEv.new o.next, OEv.free o.next], by simp [OSt.alloc, OSt.release, OSt.emit],
      Takes.alloc (.inl rfl) hb fun L' hn _ hL' => (Takes.free hn).congr fun i =>
        ((and_congr_left' (hL' i)).trans (hb.without_new i)).trans (hnone i)⟩
  unfold ownReadFile
  match path, delim, comment with
  | none, _, _ => exact hnull
  | some _, none, _ => exact hnull
  | some _, some _, none => exact hnull
  | some p, some d, some c =>
    simp only
    obtain ⟨evs2, h2log, -, h2takes, h2ok⟩ := ownReadFileCB_spec ctx o.alloc.1 o.alloc.2 false false p d c
    generalize ownReadFileCB ctx o.alloc.1 o.alloc.2 false false p d c = q at h2log h2takes h2ok ⊢
    obtain ⟨o2, r, freed⟩ := q
    replace h2log : o2.log = o.log ++ OEv.new o.next :: evs2 := by rw [h2log]; simp [OSt.alloc]
    cases r with
    | ok kf =>
      cases h2ok kf rfl
      refine ⟨_, h2log, Takes.alloc (.inl rfl) hb fun L' hn _ hL' => (h2takes L' hn).congr fun i => ?_⟩
      exact (and_iff_left fun h => nomatch h).trans ((hL' i).trans (or_congr_right Option.some_inj.symm))
    | error e =>
      simp only [release_unless]
      refine ⟨OEv.new o.next :: (evs2 ++ (if freed then none else some o.next).toList.map OEv.free),
        by rw [(releaseOpt_log o2 _).1, h2log, List.append_assoc]; rfl, ?_⟩
      refine Takes.alloc (.inl rfl) hb fun L' hn _ hL' => ((h2takes L' hn).readFailed hn).congr fun i => ?_
      exact ((and_congr_left' (hL' i)).trans (hb.without_new i)).trans (hnone i)

theorem C20_history_ledger (ctx : RdCtx) (o : OSt) (usr etc name suffix delim : Option Str) (comment : Str) (L : List Nat)
    (hb : Bnd L o.next) :
    ∃ evs, (ownReadDirsHistory ctx o usr etc name suffix delim comment).1.log = o.log ++ evs ∧
      match (ownReadDirsHistory ctx o usr etc name suffix delim comment).2 with
      | .ok files => Takes L evs (fun i => i ∈ L ∨ i ∈ idsOf files) ∧ (idsOf files).Nodup ∧ (∀ i ∈ idsOf files, i ∉ L) ∧
          -- and when the caller has released every member, what was alive before is alive, nothing else
          Takes L (evs ++ (idsOf files).map OEv.free) (· ∈ L)
      | .error _ => Takes L evs (· ∈ L) := by
  unfold ownReadDirsHistory
  obtain ⟨evs, h1, -, h3⟩ := ownHistory_spec ctx o [usr.getD [], etc.getD []] name suffix delim comment false false o.rs.g.confDirs
  have h := h3 L hb
  generalize ownHistory ctx o [usr.getD [], etc.getD []] name suffix delim comment false false o.rs.g.confDirs = q at h1 h ⊢
  obtain ⟨o1, r⟩ := q
  refine ⟨evs, h1, ?_⟩
  cases r with
  | error e => exact h
  | ok files =>
    obtain ⟨ht, hpw, hrng⟩ := h
    have hnd : (idsOf files).Nodup := hpw.imp Nat.ne_of_lt
    have hge : ∀ i ∈ idsOf files, o.next ≤ i := fun i hi => (hrng i hi).1
    refine ⟨ht, hnd, fun i hi h => Nat.lt_irrefl _ (Nat.lt_of_lt_of_le (hb i h) (hge i hi)), Takes.append ht fun L' hL' => ?_⟩
    exact (Takes.freeAll _ L' hnd fun i hi => (hL' i).2 (Or.inr hi)).congr fun i =>
      (and_congr_left' (hL' i)).trans (hb.without_ids hge i)

/-- an object handed out for a NULL pointer is a new one -/
theorem C20_readConfig_fresh (ctx : RdCtx) (o : OSt) (project usr name suffix delim : Option Str) (comment : Str) (id : Nat)
    (h : ptrId (ownReadConfig ctx o none project usr name suffix delim comment).2.2 = some id) : o.next ≤ id := by
  unfold ownReadConfig at h
  simp only at h
  obtain ⟨-, -, hlt, -⟩ := ownReadConfigCore_new ctx o (prepareConfig {} project usr name).1
    (prepareConfig {} project usr name).2 suffix delim comment
  generalize ownReadConfigCore ctx o.alloc.1 o.alloc.2 _ _ suffix delim comment = q at h hlt
  obtain ⟨o1, r⟩ := q
  cases r with
  | ok m =>
    cases h
    exact Nat.le_of_lt (hlt m rfl)
  | error e => cases h

/-- the caller passed NULL, got an object and released it: what was alive before is alive, nothing else -/
theorem C20_readConfig_no_leak (ctx : RdCtx) (o : OSt) (project usr name suffix delim : Option Str) (comment : Str)
    (L : List Nat) (hb : Bnd L o.next) :
    ∃ evs, (ownReadConfig ctx o none project usr name suffix delim comment).1.log = o.log ++ evs ∧
      Takes L (evs ++ ((ptrId (ownReadConfig ctx o none project usr name suffix delim comment).2.2).toList.map OEv.free)) (· ∈ L) := by
  obtain ⟨evs, h1, h2⟩ := C20_readConfig_ledger ctx o none project usr name suffix delim comment L hb (fun _ h => nomatch h)
  have hf := C20_readConfig_fresh ctx o project usr name suffix delim comment
  refine ⟨evs, h1, Takes.append h2 fun L' hL' => ?_⟩
  refine (Takes.freeOpt fun c hc => (hL' c).2 (Or.inr hc.symm)).congr fun i => ?_
  rw [hL' i]
  refine (or_and_not_iff fun hi h => ?_).trans (and_iff_left (Option.some_ne_none i))
  exact Nat.lt_irrefl _ (Nat.lt_of_lt_of_le (hb i hi.1) (hf i h.symm))

/-- the results (state, return code, object or file list) are those of the functional model, so every theorem
    of C01/C06/C12/C13/C16 about `readConfig`, `readDirs`, `readDirsHistory`, `readFile` speaks about the very
    calls whose object events are counted here -/
theorem C20_own_refines (ctx : RdCtx) (o : OSt) :
    (∀ slot project usr name suffix delim comment,
      ((ownReadConfig ctx o slot project usr name suffix delim comment).1.rs,
       (ownReadConfig ctx o slot project usr name suffix delim comment).2.1,
       (ownReadConfig ctx o slot project usr name suffix delim comment).2.2.map Prod.snd) =
      readConfig ctx o.rs (slot.map Prod.snd) project usr name suffix delim comment) ∧
    (∀ usr etc name suffix delim comment,
      ((ownReadDirs ctx o usr etc name suffix delim comment).1.rs,
       (ownReadDirs ctx o usr etc name suffix delim comment).2.1,
       (ownReadDirs ctx o usr etc name suffix delim comment).2.2.map Prod.snd) =
      readDirs ctx o.rs usr etc name suffix delim comment) ∧
    (∀ usr etc name suffix delim comment,
      ((ownReadDirsHistory ctx o usr etc name suffix delim comment).1.rs,
       (ownReadDirsHistory ctx o usr etc name suffix delim comment).2.map (List.map Prod.snd)) =
      readDirsHistory ctx o.rs usr etc name suffix delim comment) ∧
    (∀ path delim comment,
      ((ownReadFile ctx o path delim comment).1.rs, (ownReadFile ctx o path delim comment).2.1,
       (ownReadFile ctx o path delim comment).2.2.map Prod.snd) = readFile ctx o.rs path delim comment) :=
  ⟨fun _ _ _ _ _ _ _ => ownReadConfig_result .., fun _ _ _ _ _ _ => ownReadDirs_result ..,
   fun _ _ _ _ _ _ => by unfold ownReadDirsHistory readDirsHistory; exact ownHistory_result ..,
   fun _ _ _ => ownReadFile_result ..⟩

/-! non-vacuity: the premises of the ledger theorems hold at the start of every scenario (nothing alive, counter 0),
    and the ledger refuses the sequences C20 forbids -/
example : Bnd [] 0 := by intro i hi; cases hi
example : ledger [] [.new 0, .new 1, .cb [], .openFile [], .free 1, .merged 2, .free 0] = some [2] := by decide
example : ledger [] [.new 0, .free 0, .free 0] = none := by decide          -- released twice
example : ledger [] [.new 0, .free 1] = none := by decide                   -- released, never created
example : ledger [0] [.new 0] = none := by decide                           -- id handed out twice

end Econf
