import Econf.Writer
import Econf.Lemmas.ListLemmas
import Econf.Lemmas.ParserLemmas
import Econf.Props.C02

/-!
  C15 — parsing options do what they say.

  Proved here: the option-string tokenizer (`econf_newKeyFile_with_options`): every `;`-separated
  list of documented items is accepted and every item has its documented effect, an item given
  twice acting as its last occurrence (`C15_options`); an item with an unknown name is answered
  with option-not-found (`C15_unknown`).  For JOIN_SAME_ENTRIES and PYTHON_STYLE: the join of
  repeated definitions (`C15_join_*`) and the python-style continuation rule per line
  (`C15_python_continues`).  The statement for whole option-grammar documents rests on the
  correspondence run (it needs the round-trip theorem of C02).
-/

namespace Econf

def SEMI : Byte := 0x3B
def COLON : Byte := 0x3A

/-- the documented option items -/
inductive OptItem where
  | join
  | python
  | parsingDirs (ds : List Str)
  | configDirs (ps : List Str)
  | rootPrefix (d : Str)

def OptItem.render : OptItem → Str
  | .join => optJoin
  | .python => optPython
  | .parsingDirs ds => optParsingDirs ++ joinWith COLON ds
  | .configDirs ps => optConfigDirs ++ joinWith COLON ps
  | .rootPrefix d => optRootPrefix ++ d

/-- directory names contain neither `;` nor `:`; lists are non-empty -/
def OptItem.WF : OptItem → Prop
  | .join => True
  | .python => True
  | .parsingDirs ds => ds ≠ [] ∧ ∀ d ∈ ds, SEMI ∉ d ∧ COLON ∉ d
  | .configDirs ps => ps ≠ [] ∧ ∀ d ∈ ps, SEMI ∉ d ∧ COLON ∉ d
  | .rootPrefix d => SEMI ∉ d

/-- the documented effect of one item -/
def OptItem.effect (kf : KeyFile) : OptItem → KeyFile
  | .join => { kf with join := true }
  | .python => { kf with python := true }
  | .parsingDirs ds => { kf with parseDirs := ds }
  | .configDirs ps => { kf with confDirs := ps }
  | .rootPrefix d => { kf with rootPrefix := some d }

/-- the two texts hold different bytes at some position within both: no extension of `p` then starts with, or equals, `q` -/
def differ (p q : Str) : Bool := (p.zip q).any (fun ab => ab.1 != ab.2)

theorem startsWith_append_of_differ (p x q : Str) (h : differ p q = true) : startsWith (p ++ x) q = false := by
  unfold differ at h
  induction p generalizing q with
  | nil => simp at h
  | cons a p ih =>
    cases q with
    | nil => simp at h
    | cons b q =>
      simp only [List.zip_cons_cons, List.any_cons, Bool.or_eq_true, bne_iff_ne, ne_eq] at h
      have := ih q
      simp only [startsWith, List.cons_append, List.length_cons, List.take_succ_cons, List.cons_beq_cons] at this ⊢
      by_cases hab : a = b
      · rw [this (h.resolve_left (fun hh => hh hab)), Bool.and_false]
      · rw [beq_false_of_ne hab, Bool.false_and]

theorem append_beq_of_differ (p x q : Str) (h : differ p q = true) : (p ++ x == q) = false := by
  apply Bool.eq_false_iff.2
  intro he
  have := startsWith_append_of_differ p x q h
  rw [eq_of_beq he, startsWith, List.take_length, beq_self_eq_true] at this
  cases this

theorem applyOption_item (kf : KeyFile) (it : OptItem) (h : it.WF) : applyOption kf it.render = .ok (it.effect kf) := by
  unfold applyOption
  cases it with
  | join => rw [OptItem.render, if_pos (beq_self_eq_true _)]; rfl
  | python =>
    rw [OptItem.render, if_neg (by decide), if_pos (beq_self_eq_true _)]
    rfl
  | parsingDirs ds =>
    simp only [OptItem.render, append_beq_of_differ optParsingDirs _ optJoin (by decide), append_beq_of_differ optParsingDirs _ optPython (by decide),
      Bool.false_eq_true, if_false, startsWith_append, if_true, List.drop_left']
    rw [show (58 : Byte) = COLON from rfl, splitOn_joinWith COLON ds h.1 (fun d hd => (h.2 d hd).2)]
    rfl
  | configDirs ps =>
    simp only [OptItem.render, append_beq_of_differ optConfigDirs _ optJoin (by decide), append_beq_of_differ optConfigDirs _ optPython (by decide),
      startsWith_append_of_differ optConfigDirs _ optParsingDirs (by decide),
      Bool.false_eq_true, if_false, startsWith_append, if_true, List.drop_left']
    rw [show (58 : Byte) = COLON from rfl, splitOn_joinWith COLON ps h.1 (fun d hd => (h.2 d hd).2)]
    rfl
  | rootPrefix d =>
    simp only [OptItem.render, append_beq_of_differ optRootPrefix _ optJoin (by decide), append_beq_of_differ optRootPrefix _ optPython (by decide),
      startsWith_append_of_differ optRootPrefix _ optParsingDirs (by decide), startsWith_append_of_differ optRootPrefix _ optConfigDirs (by decide),
      Bool.false_eq_true, if_false, startsWith_append, if_true, List.drop_left']
    rfl

theorem not_mem_joinWith (b c : Byte) (hbc : b ≠ c) (l : List Str) (hl : ∀ d ∈ l, b ∉ d) : b ∉ joinWith c l := by
  induction l with
  | nil => simp [joinWith]
  | cons d ds ih =>
    cases ds with
    | nil => simpa [joinWith] using hl d List.mem_cons_self
    | cons e es =>
      simp only [joinWith, List.mem_append, List.mem_cons, not_or]
      exact ⟨hl d List.mem_cons_self, hbc, ih (fun x hx => hl x (List.mem_cons_of_mem _ hx))⟩

theorem semi_not_in_render (it : OptItem) (h : it.WF) : SEMI ∉ it.render := by
  cases it with
  | join => decide
  | python => decide
  | parsingDirs ds =>
    simp only [OptItem.render, List.mem_append, not_or]
    exact ⟨by decide, not_mem_joinWith SEMI COLON (by decide) ds (fun d hd => (h.2 d hd).1)⟩
  | configDirs ps =>
    simp only [OptItem.render, List.mem_append, not_or]
    exact ⟨by decide, not_mem_joinWith SEMI COLON (by decide) ps (fun d hd => (h.2 d hd).1)⟩
  | rootPrefix d =>
    simp only [OptItem.render, List.mem_append, not_or]
    exact ⟨by decide, h⟩

theorem applyOptions_items (kf : KeyFile) (items : List OptItem) (h : ∀ it ∈ items, it.WF) :
    applyOptions kf (items.map OptItem.render) = (items.foldl OptItem.effect kf, .success) := by
  induction items generalizing kf with
  | nil => rfl
  | cons it its ih =>
    simp only [List.map_cons, applyOptions, applyOption_item kf it (h it List.mem_cons_self), List.foldl_cons]
    exact ih _ (fun x hx => h x (List.mem_cons_of_mem _ hx))

theorem OptItem.render_ne_nil (it : OptItem) : it.render ≠ [] := by
  cases it <;> exact List.cons_ne_nil _ _

theorem joinWith_cons_isEmpty (c : Byte) (p : Str) (ps : List Str) (hp : p ≠ []) :
    (joinWith c (p :: ps)).isEmpty = false := by
  cases p with
  | nil => exact absurd rfl hp
  | cons a as => cases ps <;> rfl

/-- every option string made of documented items is accepted, and the object carries the effect of
    every item, an item given twice acting as its last occurrence (the effects are applied in order) -/
theorem C15_options (items : List OptItem) (hne : items ≠ []) (h : ∀ it ∈ items, it.WF) :
    newWithOptions (some (joinWith SEMI (items.map OptItem.render))) = (items.foldl OptItem.effect {}, .success) := by
  unfold newWithOptions
  have hpne : items.map OptItem.render ≠ [] := by simpa using hne
  have hnonempty : (joinWith SEMI (items.map OptItem.render)).isEmpty = false := by
    cases items with
    | nil => exact absurd rfl hne
    | cons it its => exact joinWith_cons_isEmpty SEMI _ _ it.render_ne_nil
  simp only [hnonempty, Bool.false_eq_true, if_false]
  rw [show (0x3B : Byte) = SEMI from rfl, splitOn_joinWith SEMI _ hpne]
  · exact applyOptions_items {} items h
  · intro p hp
    obtain ⟨it, hit, rfl⟩ := List.mem_map.mp hp
    exact semi_not_in_render it (h it hit)

/-- an item whose name is not one of the five documented ones is answered with option-not-found -/
theorem C15_unknown (kf : KeyFile) (o : Str) (h1 : o ≠ optJoin) (h2 : o ≠ optPython)
    (h3 : startsWith o optParsingDirs = false) (h4 : startsWith o optConfigDirs = false) (h5 : startsWith o optRootPrefix = false) :
    applyOption kf o = .error .optionNotFound := by
  have a : (o == optJoin) = false := by simpa using h1
  have b : (o == optPython) = false := by simpa using h2
  simp [applyOption, a, b, h3, h4, h5]

/-- … and the whole option string is refused at that item -/
theorem C15_unknown_string (kf : KeyFile) (pre : List OptItem) (o : Str) (rest : List Str) (hpre : ∀ it ∈ pre, it.WF)
    (ho : applyOption (pre.foldl OptItem.effect kf) o = .error .optionNotFound) :
    (applyOptions kf (pre.map OptItem.render ++ o :: rest)).2 = .optionNotFound := by
  induction pre generalizing kf with
  | nil =>
    have ho' : applyOption kf o = .error .optionNotFound := ho
    simp [applyOptions, ho']
  | cons it its ih =>
    simp only [List.map_cons, List.cons_append, applyOptions, applyOption_item kf it (hpre it List.mem_cons_self)]
    exact ih _ (fun x hx => hpre x (List.mem_cons_of_mem _ hx)) ho

/-- joining a later definition into the first one: an empty later definition resets the value,
    a non-empty one is appended on a new line with its leading blanks removed -/
theorem C15_join_step (ei ej : Entry) :
    (ej.value = none ∨ ej.value = some [] → (joinInto ei ej).value = some [] ∧ (joinInto ei ej).ca = none) ∧
    (∀ v, ej.value = some v → v ≠ [] → (joinInto ei ej).value = some (nlCat (ei.value.getD []) (v.dropWhile isSpace))) := by
  constructor
  · intro h
    rcases h with h | h <;> simp [joinInto, h]
  · intro v hv hne
    have : v.isEmpty = false := by cases v <;> simp_all
    simp [joinInto, hv, this]

/-- without the option the entries are left alone (first definition wins on lookup, C02) -/
theorem C15_no_join (delim comment : Str) (python : Bool) (content : Str) (st : PState)
    (hp : parseLines { delim := delim, comment := if comment.isEmpty then [0x23] else comment, python := python, join := false } {} (splitLines content) = .ok st) :
    parseBytes { delim := delim, comment := comment, python := python, join := false } content = .ok st :=
  parseBytes_of_lines _ content st hp rfl

/-- PYTHON_STYLE: an indented line directly below an entry continues it, even if it contains the
    delimiter — the delimiter test is not even made -/
theorem C15_python_continues (cfg : Cfg) (st : PState) (org : Str) (o : Byte) (orest : Str) (delimSeen : Bool) (data : Str)
    (hpy : cfg.python = true) (horg : org = o :: orest) (hind : isSpace o = true) (hmix : mixedDelim cfg.delim = false)
    (hprev : lastEntryOnPrevLine st = true) : isContinuation cfg st org delimSeen data = true := by
  unfold isContinuation
  simp [hpy, horg, hind, hmix, hprev]

/-- … and its indentation is removed, the rest (comment characters included) is kept -/
theorem C15_python_append (e : Entry) (v : Str) (ca : Option Str) (line : Nat) :
    (appendToEntry true e v ca line).value = some (nlCat (e.value.getD []) (v.dropWhile isSpace)) := by
  simp [appendToEntry]

/-- non-vacuity: the documented items in one string, one of them twice -/
example : (newWithOptions (some (joinWith SEMI ([OptItem.parsingDirs [[0x2f, 0x61]], .join, .parsingDirs [[0x2f, 0x62], [0x2f, 0x63]], .rootPrefix [0x2f, 0x72]].map OptItem.render)))).1.parseDirs = [[0x2f, 0x62], [0x2f, 0x63]] := by
  decide

/-- a definition without text: no value at all, or the empty text -/
def Entry.emptyDef (e : Entry) : Bool :=
  match e.value with
  | none => true
  | some v => v.isEmpty

/-- how the value of the first definition changes when a later definition of the same key is met -/
def joinVal (acc : Option Str) (ej : Entry) : Option Str :=
  if ej.emptyDef then some [] else some (nlCat (acc.getD []) ((ej.value.getD []).dropWhile isSpace))

theorem joinInto_value (ei ej : Entry) : (joinInto ei ej).value = joinVal ei.value ej := by
  unfold joinInto joinVal Entry.emptyDef
  cases ej.value <;> rfl

theorem joinInto_gk (ei ej : Entry) : (joinInto ei ej).group = ei.group ∧ (joinInto ei ej).key = ei.key := ⟨rfl, rfl⟩

/-- entry `i` of the joined list is entry `i` joined with everything behind it -/
theorem C15_join_entry (es : List Entry) (i : Nat) (e : Entry) (h : es[i]? = some e) :
    (joinSame es)[i]? = some (joinOne e (es.drop (i + 1))) := by
  induction es generalizing i with
  | nil => simp at h
  | cons a as ih =>
    cases i with
    | zero => simp only [List.getElem?_cons_zero, Option.some.injEq] at h; subst h; simp [joinSame]
    | succ n =>
      simp only [List.getElem?_cons_succ] at h
      simp only [joinSame, List.getElem?_cons_succ, List.drop_succ_cons]
      exact ih n h

theorem joinOne_gk (e : Entry) (later : List Entry) : (joinOne e later).group = e.group ∧ (joinOne e later).key = e.key := by
  unfold joinOne
  induction later generalizing e with
  | nil => exact ⟨rfl, rfl⟩
  | cons x xs ih =>
    rw [List.foldl_cons]
    split
    · have := ih (joinInto e x); exact this
    · exact ih e

/-- the joined value is the first value folded with the later definitions **of the same section
    and key**, in file order; definitions of other keys play no role -/
theorem C15_join_value (e : Entry) (later : List Entry) :
    (joinOne e later).value =
      (later.filter (fun x => e.group == x.group && e.key == x.key)).foldl joinVal e.value := by
  unfold joinOne
  induction later generalizing e with
  | nil => rfl
  | cons x xs ih =>
    rw [List.foldl_cons, List.filter_cons]
    by_cases hx : (e.group == x.group && e.key == x.key) = true
    · simp only [hx, if_true, List.foldl_cons]
      have := ih (joinInto e x)
      rw [(joinInto_gk e x).1, (joinInto_gk e x).2, joinInto_value] at this
      exact this
    · simp only [hx, Bool.false_eq_true, if_false]
      exact ih e

/-- **since its last empty definition**: whatever was defined up to and including an empty
    definition is forgotten -/
theorem C15_join_since_empty (v : Option Str) (pre post : List Entry) (z : Entry) (hz : z.emptyDef = true) :
    (pre ++ z :: post).foldl joinVal v = post.foldl joinVal (some []) := by
  rw [List.foldl_append, List.foldl_cons]
  simp [joinVal, hz]

/-- **concatenation in file order**: non-empty definitions are appended one per line, each without
    its leading blanks -/
theorem C15_join_concat (a : Str) (post : List Entry) (h : ∀ x ∈ post, x.emptyDef = false) :
    post.foldl joinVal (some a) = some (a ++ post.flatMap (fun x => NL :: (x.value.getD []).dropWhile isSpace)) := by
  induction post generalizing a with
  | nil => simp
  | cons x xs ih =>
    rw [List.foldl_cons]
    have hx := h x (by simp)
    have : joinVal (some a) x = some (nlCat a ((x.value.getD []).dropWhile isSpace)) := by simp [joinVal, hx]
    rw [this, ih _ (fun y hy => h y (List.mem_cons_of_mem _ hy))]
    simp [nlCat]

/-- the three together, for the first definition at position `i`: if the later definitions of the
    key are `pre`, an empty one, then the non-empty `post`, the joined value is the lines of `post` -/
theorem C15_join_spec (es : List Entry) (i : Nat) (e z : Entry) (pre post : List Entry)
    (h : es[i]? = some e)
    (hl : (es.drop (i + 1)).filter (fun x => e.group == x.group && e.key == x.key) = pre ++ z :: post)
    (hz : z.emptyDef = true) (hp : ∀ x ∈ post, x.emptyDef = false) :
    ∃ e', (joinSame es)[i]? = some e' ∧ e'.group = e.group ∧ e'.key = e.key ∧
      e'.value = some (post.flatMap (fun x => NL :: (x.value.getD []).dropWhile isSpace)) := by
  refine ⟨_, C15_join_entry es i e h, (joinOne_gk e _).1, (joinOne_gk e _).2, ?_⟩
  rw [C15_join_value, hl, C15_join_since_empty _ pre post z hz, C15_join_concat [] post hp]
  simp

/-- `k=a`, `k=`, `k=b`, `k=  c` joined: the value of the first entry is `⏎b⏎c` -/
example : ((joinSame [⟨NONE, [0x6b], some [0x61], none, none, 1, false⟩, ⟨NONE, [0x6b], none, none, none, 2, false⟩,
    ⟨NONE, [0x6b], some [0x62], none, none, 3, false⟩, ⟨NONE, [0x6b], some [0x20, 0x20, 0x63], none, none, 4, false⟩])[0]?).map (·.value) =
    some (some [0x0a, 0x62, 0x0a, 0x63]) := by decide

end Econf
