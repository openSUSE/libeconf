import Econf.Lemmas.MiniCFrame
import Econf.Merge
import Econf.KeyFileOps
import Generated.LeafFns

/-!
  # The look-ups over the entry array of an `econf_file`, on the terms generated from the C source

  `has_group`, `first_entry`, `first_definition` (lib/mergefiles.c) and `find_key` (lib/helpers.c) are translated by
  gen/c2lean.py on every run (`Generated/LeafFns.lean`); struct members are word slots of the interpreter's memory
  (`MiniC.Block.slots`).  For every entry array, every group and key: no access outside the array of `length` entries, no
  change of memory the caller can see (but `*num` of `find_key`), and the result is what the list-level model
  (`Econf.findIdx`, `Econf.hasGroup`, `Econf.findKey`) says.  The three loops are one: `KfMem.search`.
-/
open MiniC Leaf
namespace LeafKf

/-! ## the object and its entry array in memory -/

/-- (group, key) of every element of the entry array -/
abbrev Ents := List (List UInt8 × List UInt8)

/-- block `bk` holds an `econf_file` whose `file_entry` member points at block `be`, an array of exactly
    `length = ents.length` entries (7 words each) whose group and key members point at the C strings of `ents`.
    Words 0 and 1 are `file_entry` and `length` of `struct econf_file`, words `7 * i` and `7 * i + 1` are `group` and `key` of the
    `i`-th `struct file_entry`, in the order `LeafFns.records` (Generated/LeafFns.lean) fixes. -/
structure KfMem (m : Mem) (bk be : Nat) (ents : Ents) : Prop where
  kf : ∃ blk, m[bk]? = some blk ∧ blk.live = true ∧ blk.slots[0]? = some (.ptr be 0) ∧ blk.slots[1]? = some (.int ents.length)
  arr : ∃ blk, m[be]? = some blk ∧ blk.live = true ∧ blk.slots.length = 7 * ents.length ∧
    ∀ i (h : i < ents.length), ∃ bg bq, blk.slots[7 * i]? = some (.ptr bg 0) ∧ blk.slots[7 * i + 1]? = some (.ptr bq 0) ∧
      m.cstr bg 0 = .ok (ents[i]).1 ∧ m.cstr bq 0 = .ok (ents[i]).2

theorem KfMem.len {m bk be ents} (h : KfMem m bk be ents) : m.loadSlot bk 1 = .ok (.int ents.length) := by
  obtain ⟨blk, h1, h2, _, h4⟩ := h.kf
  exact loadSlot_of (i := 1) h1 h2 h4 (by simp)

theorem KfMem.arrp {m bk be ents} (h : KfMem m bk be ents) : m.loadSlot bk 0 = .ok (.ptr be 0) := by
  obtain ⟨blk, h1, h2, h3, _⟩ := h.kf
  exact loadSlot_of (i := 0) h1 h2 h3 (by simp)

theorem KfMem.sidx {m bk be ents} (h : KfMem m bk be ents) (i : Nat) (hi : i ≤ ents.length) :
    slotAdd m be 0 ((i : Int) * 7) = .ok (.ptr be ((i : Int) * 7)) := by
  obtain ⟨blk, h1, h2, h3, _⟩ := h.arr
  simpa using slotAdd_of (i * 7) h1 h2 (by rw [h3]; omega)

theorem KfMem.group {m bk be ents} (h : KfMem m bk be ents) (i : Nat) (hi : i < ents.length) :
    ∃ bg, m.loadSlot be ((i : Int) * 7) = .ok (.ptr bg 0) ∧ m.cstr bg 0 = .ok (ents[i]).1 := by
  obtain ⟨blk, h1, h2, h3, h4⟩ := h.arr
  obtain ⟨bg, bq, e1, e2, e3, e4⟩ := h4 i hi
  have ht : (i : Int) * 7 = ((7 * i : Nat) : Int) := by omega
  exact ⟨bg, by rw [ht]; exact loadSlot_of h1 h2 e1 (by simp), e3⟩

theorem KfMem.key {m bk be ents} (h : KfMem m bk be ents) (i : Nat) (hi : i < ents.length) :
    ∃ bq, m.loadSlot be ((i : Int) * 7 + 1) = .ok (.ptr bq 0) ∧ m.cstr bq 0 = .ok (ents[i]).2 := by
  obtain ⟨blk, h1, h2, h3, h4⟩ := h.arr
  obtain ⟨bg, bq, e1, e2, e3, e4⟩ := h4 i hi
  have ht : (i : Int) * 7 + 1 = ((7 * i + 1 : Nat) : Int) := by omega
  exact ⟨bq, by rw [ht]; exact loadSlot_of h1 h2 e2 (by simp), e4⟩

/-- the hypotheses are satisfiable: an object with two entries in a concrete memory -/
example : KfMem
    [{ cells := [], slots := [.ptr 1 0, .int 2] }, { cells := [], slots := [.ptr 2 0, .ptr 3 0, .null, .null, .null, .int 0, .int 0, .ptr 2 0, .ptr 4 0, .null, .null, .null, .int 0, .int 0] },
     strBlock [65], strBlock [120], strBlock [121]] 0 1 [([65], [120]), ([65], [121])] := by
  refine ⟨⟨_, rfl, rfl, rfl, rfl⟩, ⟨_, rfl, rfl, rfl, ?_⟩⟩
  intro i hi
  have : i = 0 ∨ i = 1 := by simp at hi; omega
  rcases this with rfl | rfl
  · exact ⟨2, 3, rfl, rfl, rfl, rfl⟩
  · exact ⟨2, 4, rfl, rfl, rfl, rfl⟩

theorem KfMem.mono {m m' : Mem} {bk be : Nat} {ents : Ents} (h : KfMem m bk be ents) (hm : ∀ b, b < m.length → m'[b]? = m[b]?) :
    KfMem m' bk be ents := by
  obtain ⟨blk, k1, k2, k3, k4⟩ := h.kf
  obtain ⟨ablk, a1, a2, a3, a4⟩ := h.arr
  have lk : bk < m.length := (List.getElem?_eq_some_iff.1 k1).1
  have la : be < m.length := (List.getElem?_eq_some_iff.1 a1).1
  refine ⟨⟨blk, by rw [hm bk lk]; exact k1, k2, k3, k4⟩, ⟨ablk, by rw [hm be la]; exact a1, a2, a3, ?_⟩⟩
  intro i hi
  obtain ⟨bg, bq, e1, e2, e3, e4⟩ := a4 i hi
  exact ⟨bg, bq, e1, e2, by rw [cstr_congr (hm bg (cstr_lt e3))]; exact e3, by rw [cstr_congr (hm bq (cstr_lt e4))]; exact e4⟩

/-- `kf->file_entry[i].group` (member `j = 0`) or `.key` (`j = 1`), the object in variable `vk`, the index in variable `vi` -/
def entField (vk vi j : Nat) : Expr :=
  .load (.slot (.sidx (.load (.slot (.load (.var vk) .ptr) 0) .ptr) (.load (.var vi) .u64) 7) j) .ptr
/-- `!strcmp(kf->file_entry[i].<member j>, s)` with `s` in variable `vs` -/
def fieldIs (vk vi j vs : Nat) : Expr :=
  .un .lnot (.call "strcmp" (.cons (entField vk vi j) (.cons (.load (.var vs) .ptr) .nil))) .i32
/-- `i < kf->length` -/
def kfTest (vk vi : Nat) : Expr := .bin .lt (.load (.var vi) .u64) (.load (.slot (.load (.var vk) .ptr) 1) .u64) .i32

section
variable {m : Mem} {bk be : Nat} {ents : Ents} (h : KfMem m bk be ents) {loc : List Val} {vk vi i : Nat}
  (hk : loc[vk]? = some (.ptr bk 0)) (hv : loc[vi]? = some (.int (i : Int)))
include h hk

theorem KfMem.evalLen : evalE (.load (.slot (.load (.var vk) .ptr) 1) .u64) { mem := m, loc := loc } =
    .ok (.int ents.length, { mem := m, loc := loc }) := by
  simp [mc_eval, hk, h.len]

include hv

theorem KfMem.evalTest : testOf (some (kfTest vk vi)) { mem := m, loc := loc } = .ok (decide (i < ents.length), { mem := m, loc := loc }) := by
  have hl := h.evalLen hk
  unfold kfTest
  generalize Expr.load (.slot (.load (.var vk) .ptr) 1) .u64 = L at hl ⊢
  have : ((i : Int) < (ents.length : Int)) ↔ i < ents.length := by omega
  apply testOf_boolVal
  simp [mc_eval, hv, hl, binop, cmpInt, boolVal, this]

theorem KfMem.evalEntry (hi : i ≤ ents.length) :
    evalE (.sidx (.load (.slot (.load (.var vk) .ptr) 0) .ptr) (.load (.var vi) .u64) 7) { mem := m, loc := loc } =
      .ok (.ptr be ((i : Int) * 7), { mem := m, loc := loc }) := by
  simp [mc_eval, hk, hv, h.arrp, h.sidx i hi]

theorem KfMem.evalGroup (hi : i < ents.length) :
    ∃ b, evalE (entField vk vi 0) { mem := m, loc := loc } = .ok (.ptr b 0, { mem := m, loc := loc }) ∧ m.cstr b 0 = .ok (ents[i]).1 := by
  obtain ⟨b, l, c⟩ := h.group i hi
  have he := h.evalEntry hk hv (Nat.le_of_lt hi)
  refine ⟨b, ?_, c⟩
  unfold entField
  generalize Expr.sidx _ _ 7 = S at he
  simp [mc_eval, he, l]

theorem KfMem.evalKey (hi : i < ents.length) :
    ∃ b, evalE (entField vk vi 1) { mem := m, loc := loc } = .ok (.ptr b 0, { mem := m, loc := loc }) ∧ m.cstr b 0 = .ok (ents[i]).2 := by
  obtain ⟨b, l, c⟩ := h.key i hi
  have he := h.evalEntry hk hv (Nat.le_of_lt hi)
  refine ⟨b, ?_, c⟩
  unfold entField
  generalize Expr.sidx _ _ 7 = S at he
  simp [mc_eval, he, l]

variable {vs a : Nat} {s : List UInt8} (hs : loc[vs]? = some (.ptr a 0)) (hc : m.cstr a 0 = .ok s)
include hs hc

theorem KfMem.groupIs (hi : i < ents.length) :
    evalE (fieldIs vk vi 0 vs) { mem := m, loc := loc } = .ok (boolVal ((ents[i]).1 == s), { mem := m, loc := loc }) := by
  obtain ⟨b, e, c⟩ := h.evalGroup hk hv hi
  exact lnot_strcmp e (evalE_var (ty := .ptr) (st := ⟨_, _⟩) hs (by simp)) c hc

theorem KfMem.keyIs (hi : i < ents.length) :
    evalE (fieldIs vk vi 1 vs) { mem := m, loc := loc } = .ok (boolVal ((ents[i]).2 == s), { mem := m, loc := loc }) := by
  obtain ⟨b, e, c⟩ := h.evalKey hk hv hi
  exact lnot_strcmp e (evalE_var (ty := .ptr) (st := ⟨_, _⟩) hs (by simp)) c hc

end

/-- `for (i = 0; i < kf->length; i++) if (cond) hit` followed by `rest`, where `cond` tells whether entry `i` satisfies `p` and `hit`
    returns: the loop runs up to the first entry that satisfies `p`, or to the end and on to `rest`; the other variables keep
    their values -/
theorem KfMem.search {m : Mem} {bk be : Nat} {ents : Ents} (h : KfMem m bk be ents) (fuel vk vi : Nat) (loc : List Val) (cond : Expr)
    (hit rest : Stmt) (p : List UInt8 × List UInt8 → Bool) (f : Nat) (hf : f = ents.findIdx p) (v : Val) (R : St)
    (hk : loc[vk]? = some (.ptr bk 0)) (hvi : vi < loc.length) (hne : vi ≠ vk)
    (hsmall : (ents.length : Int) + 1 < 18446744073709551616)
    (hcond : ∀ i (hi : i < ents.length), testOf (some cond) { mem := m, loc := loc.set vi (.int (i : Int)) } =
      .ok (p ents[i], { mem := m, loc := loc.set vi (.int (i : Int)) }))
    (hhit : f < ents.length → exec fuel hit { mem := m, loc := loc.set vi (.int (f : Int)) } = .ret v R)
    (hfuel : ents.length < fuel) :
    exec fuel (.seq (.expr (.assign (.var vi) (.cast .u64 (.lit 0 .i32)) .u64))
        (.seq (.for (some (kfTest vk vi)) (some (.incdec (.var vi) true true .u64)) (.ite cond hit .skip)) rest)) { mem := m, loc := loc } =
      if f < ents.length then .ret v R else exec fuel rest { mem := m, loc := loc.set vi (.int (ents.length : Int)) } := by
  subst hf
  have hl := search_list ents p fuel _ _ cond hit (fun i => { mem := m, loc := loc.set vi (.int (i : Int)) }) v R
    (fun i => h.evalTest (by rw [List.getElem?_set_ne hne]; exact hk) (List.getElem?_set_self hvi))
    (fun i hi => incdec_u64_var vi m loc i hvi (by omega)) hcond hhit hfuel
  rw [exec_seq_normal (u64_zero fuel vi m loc hvi)]
  by_cases hlt : ents.findIdx p < ents.length
  · rw [if_pos hlt] at hl ⊢
    exact exec_seq_ret hl
  · rw [if_neg hlt] at hl ⊢
    exact exec_seq_normal hl

/-! ## `first_entry`, `has_group`, `first_definition` (lib/mergefiles.c) -/

/-- index of the first entry with the given group and key; the number of entries when there is none -/
def firstIdx (ents : Ents) (g k : List UInt8) : Nat := (ents.takeWhile (fun e => !(e.1 == g && e.2 == k))).length

theorem firstIdx_eq (ents : Ents) (g k) : firstIdx ents g k = ents.findIdx (fun e => e.1 == g && e.2 == k) :=
  length_takeWhile_not _ ents

theorem firstIdx_le (ents : Ents) (g k) : firstIdx ents g k ≤ ents.length := by
  rw [firstIdx_eq]
  exact List.findIdx_le_length

theorem firstIdx_before (ents : Ents) (g k) : ∀ i (h : i < firstIdx ents g k), ¬ ((ents[i]'(Nat.lt_of_lt_of_le h (firstIdx_le ents g k))).1 = g ∧ (ents[i]'(Nat.lt_of_lt_of_le h (firstIdx_le ents g k))).2 = k) := by
  intro i h
  rw [firstIdx_eq] at h
  simpa using List.not_of_lt_findIdx h

theorem firstIdx_at (ents : Ents) (g k) (h : firstIdx ents g k < ents.length) :
    (ents[firstIdx ents g k]).1 = g ∧ (ents[firstIdx ents g k]).2 = k := by
  simp only [firstIdx_eq] at h ⊢
  simpa using List.findIdx_getElem (w := h)

/-- `first_entry`: the test of the `if` in the loop body, `.land (fieldIs 0 3 0 1) (fieldIs 0 3 1 2)` written out (and `feTest` below is
    `kfTest 0 3`) -/
def feMatch : Expr := .land
  (.un .lnot (.call "strcmp" (.cons (.load (.slot (.sidx (.load (.slot (.load (.var 0) .ptr) 0) .ptr) (.load (.var 3) .u64) 7) 0) .ptr) (.cons (.load (.var 1) .ptr) .nil))) .i32)
  (.un .lnot (.call "strcmp" (.cons (.load (.slot (.sidx (.load (.slot (.load (.var 0) .ptr) 0) .ptr) (.load (.var 3) .u64) 7) 1) .ptr) (.cons (.load (.var 2) .ptr) .nil))) .i32)
def feBody : Stmt := .ite feMatch (.ret (some (.load (.var 3) .u64))) .skip
def feTest : Expr := .bin .lt (.load (.var 3) .u64) (.load (.slot (.load (.var 0) .ptr) 1) .u64) .i32

/-- the shape of the generated term (checked by `rfl` against what the translator produced on this run) -/
theorem first_entry_shape : LeafFns.first_entry.body =
    .seq (.expr (.assign (.var 3) (.cast .u64 (.lit 0 .i32)) .u64))
      (.seq (.for (some feTest) (some (.incdec (.var 3) true true .u64)) feBody)
        (.ret (some (.load (.slot (.load (.var 0) .ptr) 1) .u64)))) := rfl

/-- the `if` of `first_entry` and of `find_key`: group and key of entry `i` against the strings in variables `vg`, `vq` -/
theorem KfMem.matchIs {m : Mem} {bk be : Nat} {ents : Ents} (h : KfMem m bk be ents) {loc : List Val} {vk vi vg vq i ag ak : Nat} {g k : List UInt8}
    (hk : loc[vk]? = some (.ptr bk 0)) (hv : loc[vi]? = some (.int (i : Int))) (hlg : loc[vg]? = some (.ptr ag 0)) (hlq : loc[vq]? = some (.ptr ak 0))
    (hg : m.cstr ag 0 = .ok g) (hq : m.cstr ak 0 = .ok k) (hi : i < ents.length) :
    testOf (some (.land (fieldIs vk vi 0 vg) (fieldIs vk vi 1 vq))) { mem := m, loc := loc } =
      .ok ((ents[i]).1 == g && (ents[i]).2 == k, { mem := m, loc := loc }) :=
  testOf_boolVal (evalE_land_bool (h.groupIs hk hv hlg hg hi) (h.keyIs hk hv hlq hq hi))

/-- `first_entry(kf, group, key)` returns the index of the first entry with that group and key, `kf->length` when there is none, and
    changes no memory.  `length + 1 < 2^64` (`size_t`) is for the `i++` behind the last round. -/
theorem first_entry_exec (m : Mem) (bk be ag ak : Nat) (ents : Ents) (g k : List UInt8) (h : KfMem m bk be ents)
    (hg : m.cstr ag 0 = .ok g) (hk : m.cstr ak 0 = .ok k) (hsmall : (ents.length : Int) + 1 < 18446744073709551616)
    (fuel : Nat) (hf : ents.length < fuel) :
    exec fuel LeafFns.first_entry.body { mem := m, loc := [.ptr bk 0, .ptr ag 0, .ptr ak 0, .undef] } =
      .ret (.int (firstIdx ents g k)) { mem := m, loc := [.ptr bk 0, .ptr ag 0, .ptr ak 0, .int (firstIdx ents g k)] } := by
  rw [first_entry_shape]
  refine (h.search fuel 0 3 [.ptr bk 0, .ptr ag 0, .ptr ak 0, .undef] feMatch _ _ _ _ (firstIdx_eq ents g k) (.int (firstIdx ents g k))
    { mem := m, loc := [.ptr bk 0, .ptr ag 0, .ptr ak 0, .int (firstIdx ents g k)] } rfl (by simp) (by decide) hsmall
    (fun i hi => h.matchIs (vk := 0) (vi := 3) (vg := 1) (vq := 2) rfl rfl rfl rfl hg hk hi)
    (fun _ => by simp [mc_exec, mc_eval]) hf).trans ?_
  by_cases hlt : firstIdx ents g k < ents.length
  · rw [if_pos hlt]
  · rw [if_neg hlt, exec_ret_some, h.evalLen (vk := 0) rfl, Nat.le_antisymm (firstIdx_le ents g k) (Nat.le_of_not_lt hlt)]
    rfl

/-- index of the first entry of the group; the number of entries when there is none -/
def firstG (ents : Ents) (g : List UInt8) : Nat := (ents.takeWhile (fun e => !(e.1 == g))).length

theorem firstG_eq (ents : Ents) (g) : firstG ents g = ents.findIdx (fun e => e.1 == g) := length_takeWhile_not _ ents

theorem firstG_le (ents : Ents) (g) : firstG ents g ≤ ents.length := (List.takeWhile_sublist _).length_le

theorem firstG_before (ents : Ents) (g) : ∀ i (h : i < firstG ents g), (ents[i]'(Nat.lt_of_lt_of_le h (firstG_le ents g))).1 ≠ g := by
  intro i h
  rw [firstG_eq] at h
  simpa using List.not_of_lt_findIdx h

theorem firstG_at (ents : Ents) (g) (h : firstG ents g < ents.length) : (ents[firstG ents g]).1 = g := by
  simp only [firstG_eq] at h ⊢
  simpa using List.findIdx_getElem (w := h)

def hgMatch : Expr := fieldIs 0 2 0 1
def hgBody : Stmt := .ite hgMatch (.ret (some (.cast .bool (.lit 1 .i32)))) .skip
def hgTest : Expr := kfTest 0 2

theorem has_group_shape : LeafFns.has_group.body =
    .seq (.expr (.assign (.var 2) (.cast .u64 (.lit 0 .i32)) .u64))
      (.seq (.for (some hgTest) (some (.incdec (.var 2) true true .u64)) hgBody)
        (.ret (some (.cast .bool (.lit 0 .i32))))) := rfl

/-- `has_group(kf, group)` returns 1 when some entry has the group and 0 otherwise, and changes no memory -/
theorem has_group_exec (m : Mem) (bk be ag : Nat) (ents : Ents) (g : List UInt8) (h : KfMem m bk be ents)
    (hg : m.cstr ag 0 = .ok g) (hsmall : (ents.length : Int) + 1 < 18446744073709551616)
    (fuel : Nat) (hf : ents.length < fuel) :
    ∃ loc', exec fuel LeafFns.has_group.body { mem := m, loc := [.ptr bk 0, .ptr ag 0, .undef] } =
      .ret (.int (if firstG ents g < ents.length then 1 else 0)) { mem := m, loc := loc' } := by
  have b1 : wrapTo .bool 1 = 1 := by decide
  have b0 : wrapTo .bool 0 = 0 := by decide
  rw [has_group_shape]
  unfold hgTest hgBody
  rw [h.search fuel 0 2 [.ptr bk 0, .ptr ag 0, .undef] hgMatch _ _ _ _ (firstG_eq ents g) (.int 1)
    { mem := m, loc := [.ptr bk 0, .ptr ag 0, .int (firstG ents g)] } rfl (by simp) (by decide) hsmall
    (fun i hi => testOf_boolVal (h.groupIs (vk := 0) (vi := 2) (vs := 1) rfl rfl rfl hg hi))
    (fun _ => by simp [mc_exec, mc_eval, convert, b1]) hf]
  by_cases hlt : firstG ents g < ents.length
  · rw [if_pos hlt, if_pos hlt]
    exact ⟨_, rfl⟩
  · rw [if_neg hlt, if_neg hlt]
    exact ⟨[.ptr bk 0, .ptr ag 0, .int ents.length], by simp [mc_exec, mc_eval, convert, b0]⟩

theorem first_definition_shape : LeafFns.first_definition.body =
    .seq (.inl (some (.var 2)) .u64 (.cons (.load (.var 0) .ptr) (.cons (entField 0 1 0) (.cons (entField 0 1 1) .nil))) 4 LeafFns.first_entry.body)
      (.ret (some (.cast .bool (.bin .eq (.load (.var 2) .u64) (.load (.var 1) .u64) .i32)))) := rfl

/-- `first_definition(kf, num)`: is entry `num` the first one with its group and key? -/
theorem first_definition_exec (m : Mem) (bk be : Nat) (ents : Ents) (num : Nat) (hnum : num < ents.length) (h : KfMem m bk be ents)
    (hsmall : (ents.length : Int) + 1 < 18446744073709551616) (fuel : Nat) (hf : ents.length < fuel) :
    ∃ loc', exec fuel LeafFns.first_definition.body { mem := m, loc := [.ptr bk 0, .int (num : Int), .undef] } =
      .ret (.int (if firstIdx ents (ents[num]).1 (ents[num]).2 = num then 1 else 0)) { mem := m, loc := loc' } := by
  obtain ⟨bg, e1, c1⟩ := h.evalGroup (loc := [.ptr bk 0, .int (num : Int), .undef]) (vk := 0) (vi := 1) rfl rfl hnum
  obtain ⟨bq, e2, c2⟩ := h.evalKey (loc := [.ptr bk 0, .int (num : Int), .undef]) (vk := 0) (vi := 1) rfl rfl hnum
  have hfe := first_entry_exec m bk be bg bq ents _ _ h c1 c2 hsmall fuel hf
  have hfi := firstIdx_le ents (ents[num]).1 (ents[num]).2
  generalize firstIdx ents (ents[num]).1 (ents[num]).2 = f at hfe hfi ⊢
  have ha : evalArgs (.cons (.load (.var 0) .ptr) (.cons (entField 0 1 0) (.cons (entField 0 1 1) .nil)))
      { mem := m, loc := [.ptr bk 0, .int (num : Int), .undef] } =
      .ok ([.ptr bk 0, .ptr bg 0, .ptr bq 0], { mem := m, loc := [.ptr bk 0, .int (num : Int), .undef] }) := by
    simp [mc_eval, e1, e2]
  have hcv : convert .u64 (.int (f : Int)) = .ok (.int (f : Int)) := by
    simp [convert, wrapTo_u64_nat f (by omega)]
  rw [first_definition_shape, exec_seq_normal (exec_inl_val (nl := 4) (i := 2) ha hfe hcv (by simp))]
  exact ⟨_, ret_u64_eq fuel m _ 2 1 f num rfl rfl⟩

/-! ### the list-level model -/

/-- what the C functions look at: group and key of every entry -/
def entsOf (es : List Econf.Entry) : Ents := es.map (fun e => (e.group, e.key))

theorem entsOf_length (es : List Econf.Entry) : (entsOf es).length = es.length := List.length_map _

theorem firstIdx_entsOf (es : List Econf.Entry) (g k : List UInt8) :
    firstIdx (entsOf es) g k = es.findIdx (fun e => e.group == g && e.key == k) := by
  rw [firstIdx_eq, entsOf, List.findIdx_map]
  rfl

theorem firstIdx_model (es : List Econf.Entry) (g k : List UInt8) :
    firstIdx (entsOf es) g k = (Econf.findIdx es g k).getD es.length := by
  rw [firstIdx_entsOf]
  exact List.findIdx_eq_getD_findIdx?

theorem firstG_model (es : List Econf.Entry) (g : List UInt8) :
    decide (firstG (entsOf es) g < es.length) = Econf.hasGroup es g := by
  rw [firstG_eq, entsOf, List.findIdx_map]
  exact decide_findIdx_lt _ es

/-- `first_entry` (lib/mergefiles.c) on the translated term: for every entry array and every group and key the function
    runs without a fault – no access outside the array of `length` entries –, leaves the memory alone and returns the
    index the model's `findIdx` names, or `length` when the model finds nothing. -/
theorem C_first_entry (m : Mem) (bk be ag ak : Nat) (es : List Econf.Entry) (g k : List UInt8) (h : KfMem m bk be (entsOf es))
    (hg : m.cstr ag 0 = .ok g) (hk : m.cstr ak 0 = .ok k) (hsmall : (es.length : Int) + 1 < 18446744073709551616)
    (fuel : Nat) (hf : es.length < fuel) :
    ∃ loc', exec fuel LeafFns.first_entry.body { mem := m, loc := [.ptr bk 0, .ptr ag 0, .ptr ak 0, .undef] } =
      .ret (.int (((Econf.findIdx es g k).getD es.length : Nat) : Int)) { mem := m, loc := loc' } := by
  have hl := entsOf_length es
  have := first_entry_exec m bk be ag ak (entsOf es) g k h hg hk (by rw [hl]; exact hsmall) fuel (by rw [hl]; exact hf)
  rw [firstIdx_model] at this
  exact ⟨_, this⟩

/-- `has_group` on the translated term: no fault, memory untouched, the answer is the model's `hasGroup`. -/
theorem C_has_group (m : Mem) (bk be ag : Nat) (es : List Econf.Entry) (g : List UInt8) (h : KfMem m bk be (entsOf es))
    (hg : m.cstr ag 0 = .ok g) (hsmall : (es.length : Int) + 1 < 18446744073709551616) (fuel : Nat) (hf : es.length < fuel) :
    ∃ loc', exec fuel LeafFns.has_group.body { mem := m, loc := [.ptr bk 0, .ptr ag 0, .undef] } =
      .ret (.int (if Econf.hasGroup es g then 1 else 0)) { mem := m, loc := loc' } := by
  have hl := entsOf_length es
  obtain ⟨loc', this⟩ := has_group_exec m bk be ag (entsOf es) g h hg (by rw [hl]; exact hsmall) fuel (by rw [hl]; exact hf)
  refine ⟨loc', ?_⟩
  rw [this, hl, ← firstG_model es g]
  simp only [decide_eq_true_eq]

/-! ## `find_key` (lib/helpers.c) -/

/-- a `const char *` argument: NULL or a C string -/
inductive StrArg (m : Mem) : Val → Option (List UInt8) → Prop where
  | null : StrArg m .null none
  | str (b : Nat) (s : List UInt8) (h : m.cstr b 0 = .ok s) : StrArg m (.ptr b 0) (some s)

theorem StrArg.mono {m m' : Mem} {v : Val} {s : Option (List UInt8)} (h : StrArg m v s) (hm : ∀ b, b < m.length → m'[b]? = m[b]?) :
    StrArg m' v s := by
  cases h with
  | null => exact .null
  | str b s hc => exact .str b s (by rw [cstr_congr (hm b (cstr_lt hc))]; exact hc)

/-- `!s || !*s` for a string argument in variable `v`: no string, or an empty one -/
theorem StrArg.evalNoStr {m : Mem} {sv : Val} {s : Option (List UInt8)} {loc : List Val} {v : Nat} (h : StrArg m sv s) (hl : loc[v]? = some sv) :
    evalE (.lor (.un .lnot (.load (.var v) .ptr) .i32) (.un .lnot (.load (.deref (.load (.var v) .ptr)) .i8) .i32)) { mem := m, loc := loc } =
      .ok (boolVal (decide (s = none ∨ s = some [])), { mem := m, loc := loc }) := by
  cases h with
  | null => simp [mc_eval, hl, unop, truth, boolVal]
  | str b s h =>
    have hh := cstr_head h
    cases s with
    | nil =>
      simp only [headCh] at hh
      simp [mc_eval, hl, hh, unop, truth, boolVal]
    | cons c cs =>
      have hs0 : sch c ≠ 0 := fun h0 => cstr_nz h (by simp [(sch_zero_iff c).1 h0])
      simp only [headCh] at hh
      simp [mc_eval, hl, hh, hs0, unop, truth, boolVal]

theorem StrArg.nonempty {m : Mem} {sv : Val} {s : Option (List UInt8)} (h : StrArg m sv s) (hno : ¬ (s = none ∨ s = some [])) :
    ∃ b c cs, sv = .ptr b 0 ∧ s = some (c :: cs) ∧ m.cstr b 0 = .ok (c :: cs) := by
  cases h with
  | null => exact absurd (Or.inl rfl) hno
  | str b s hc =>
    cases s with
    | nil => exact absurd (Or.inr rfl) hno
    | cons c cs => exact ⟨b, c, cs, rfl, rfl, hc⟩

/-- the group a lookup uses: NULL and "" mean the group of the group-less keys -/
def grpOf (g : Option (List UInt8)) : List UInt8 :=
  match g with
  | none => Econf.NONE
  | some g => if g.isEmpty then Econf.NONE else g

theorem StrArg.grp_nz {m : Mem} {gv : Val} {g : Option (List UInt8)} (hg : StrArg m gv g) : (0 : UInt8) ∉ grpOf g := by
  have hnone : (0 : UInt8) ∉ Econf.NONE := by decide
  cases hg with
  | null => exact hnone
  | str b s hc =>
    show (0 : UInt8) ∉ (if s.isEmpty then Econf.NONE else s)
    split
    · exact hnone
    · exact cstr_nz hc

/-- `(!group || !*group) ? strdup("_none_") : strdup(group)`; the literal `[95, 110, 111, 110, 101, 95]` is "_none_" = `Econf.NONE` -/
def fkGrp : Expr := .cond (.lor (.un .lnot (.load (.var 1) .ptr) .i32) (.un .lnot (.load (.deref (.load (.var 1) .ptr)) .i8) .i32))
  (.call "strdup" (.cons (.strlit [95, 110, 111, 110, 101, 95]) .nil)) (.call "strdup" (.cons (.load (.var 1) .ptr) .nil))
def fkNoKey : Expr := .lor (.un .lnot (.load (.var 2) .ptr) .i32) (.un .lnot (.load (.deref (.load (.var 2) .ptr)) .i8) .i32)
def fkFree : Stmt := .expr (.call "free" (.cons (.load (.var 4) .ptr) .nil))
/-- `kfTest 0 5` and `.land (fieldIs 0 5 0 4) (fieldIs 0 5 1 2)`, written out -/
def fkTest : Expr := .bin .lt (.load (.var 5) .u64) (.load (.slot (.load (.var 0) .ptr) 1) .u64) .i32
def fkMatch : Expr := .land
  (.un .lnot (.call "strcmp" (.cons (.load (.slot (.sidx (.load (.slot (.load (.var 0) .ptr) 0) .ptr) (.load (.var 5) .u64) 7) 0) .ptr) (.cons (.load (.var 4) .ptr) .nil))) .i32)
  (.un .lnot (.call "strcmp" (.cons (.load (.slot (.sidx (.load (.slot (.load (.var 0) .ptr) 0) .ptr) (.load (.var 5) .u64) 7) 1) .ptr) (.cons (.load (.var 2) .ptr) .nil))) .i32)
def fkHit : Stmt := .seq fkFree (.seq (.expr (.assign (.slot (.load (.var 3) .ptr) 0) (.load (.var 5) .u64) .u64)) (.ret (some (.cast .u32 (.lit 0 .i32)))))
def fkBody : Stmt := .ite fkMatch fkHit .skip

theorem find_key_shape : LeafFns.find_key.body =
    .seq (.expr (.assign (.var 4) fkGrp .ptr))
      (.seq (.ite (.bin .eq (.load (.var 4) .ptr) .null .i32) (.ret (some (.cast .u32 (.lit 2 .i32)))) .skip)
        (.seq (.ite fkNoKey (.seq fkFree (.ret (some (.cast .u32 (.lit 1 .i32))))) .skip)
          (.seq (.expr (.assign (.var 5) (.cast .u64 (.lit 0 .i32)) .u64))
            (.seq (.for (some fkTest) (some (.incdec (.var 5) true true .u64)) fkBody)
              (.seq fkFree (.ret (some (.cast .u32 (.lit 5 .i32))))))))) := rfl

/-- `grp = strdup(…)` into variable `v` (the group argument is in variable 1): `grp` is a fresh copy of the group name, or of
    "_none_" for no or an empty name, in a block of its own -/
theorem fk_grp (v : Nat) (m : Mem) (loc : List Val) (gv : Val) (g : Option (List UInt8)) (hg : StrArg m gv g) (hl1 : loc[1]? = some gv)
    (hv : v < loc.length) (fuel : Nat) :
    ∃ m1 gb, exec fuel (.expr (.assign (.var v) fkGrp .ptr)) { mem := m, loc := loc } = .normal { mem := m1, loc := loc.set v (.ptr gb 0) } ∧
      m.length ≤ gb ∧ MemBytes m1 gb (grpOf g ++ [0]) ∧ (∀ b, b < m.length → m1[b]? = m[b]?) ∧
      (∀ b blk, m.length ≤ b → b ≠ gb → m1[b]? = some blk → blk.writable = false) := by
  suffices hE : ∃ m1 gb, evalE fkGrp { mem := m, loc := loc } = .ok (.ptr gb 0, { mem := m1, loc := loc }) ∧
      m.length ≤ gb ∧ MemBytes m1 gb (grpOf g ++ [0]) ∧ (∀ b, b < m.length → m1[b]? = m[b]?) ∧
      (∀ b blk, m.length ≤ b → b ≠ gb → m1[b]? = some blk → blk.writable = false) by
    obtain ⟨m1, gb, hE, rest⟩ := hE
    exact ⟨m1, gb, exec_assign_var hE rfl hv, rest⟩
  unfold fkGrp
  rw [evalE_cond_bool (hg.evalNoStr hl1)]
  by_cases hno : g = none ∨ g = some []
  · have hgrp : grpOf g = Econf.NONE := by
      rcases hno with rfl | rfl <;> rfl
    obtain ⟨m1, e1, e2, e3, e4⟩ := strdup_lit m loc Econf.NONE (by decide)
    rw [decide_eq_true hno, if_pos rfl, hgrp]
    exact ⟨m1, m.length + 1, e1, Nat.le_succ _, e2, e3, e4⟩
  · obtain ⟨b, c, cs, rfl, rfl, hc⟩ := hg.nonempty hno
    obtain ⟨m1, d1, d2, d3, d4⟩ := strdup_spec _ _ _ _ hc
    rw [decide_eq_false hno, if_neg Bool.false_ne_true]
    refine ⟨m1, m.length, by simp only [mc_eval, hl1, d1], Nat.le_refl _, d2, d4, ?_⟩
    intro b' blk hb1 hb2 hb3
    have hlt : b' < m1.length := (List.getElem?_eq_some_iff.1 hb3).1
    rw [d3] at hlt
    exact absurd (Nat.le_antisymm (Nat.le_of_lt_succ hlt) hb1) hb2

/-- the argument check of `find_key`: no key, or an empty one -/
theorem fk_nokey (m : Mem) (loc : List Val) (kv : Val) (k : Option (List UInt8)) (hk : StrArg m kv k) (hl2 : loc[2]? = some kv) :
    testOf (some fkNoKey) { mem := m, loc := loc } = .ok (decide (k = none ∨ k = some []), { mem := m, loc := loc }) :=
  testOf_boolVal (hk.evalNoStr hl2)

/-- the result code of `find_key`: 0 = ECONF_SUCCESS, 1 = ECONF_ERROR, 5 = ECONF_NOKEY of `enum econf_err` (include/libeconf.h);
    2 = ECONF_NOMEM, the code of the branch `!grp`, is never returned because `strdup` does not fail in the interpreter -/
def fkCode (ents : Ents) (g k : Option (List UInt8)) : Int :=
  match k with
  | none => 1
  | some [] => 1
  | some (c :: cs) => if firstIdx ents (grpOf g) (c :: cs) < ents.length then 0 else 5

/-- `free(grp)`: the copy is dead afterwards, everything else as before -/
theorem fk_free (m1 : Mem) (loc : List Val) (gb : Nat) (gblk : Block) (hgb : m1[gb]? = some gblk) (hgl : gblk.live = true)
    (hl4 : loc[4]? = some (.ptr gb 0)) (fuel : Nat) :
    exec fuel fkFree { mem := m1, loc := loc } = .normal { mem := m1.set gb { gblk with live := false }, loc := loc } :=
  exec_free_var fuel 4 m1 loc gb gblk hl4 hgb hgl

/-- the hit of the search: `grp` is released, the index goes to `*num`, success -/
theorem fk_hit (m1 : Mem) (loc : List Val) (gb bn f : Nat) (gblk nblk : Block) (hgb : m1[gb]? = some gblk) (hgl : gblk.live = true)
    (n1 : m1[bn]? = some nblk) (n2 : nblk.live = true) (n3 : nblk.writable = true) (n4 : nblk.slots.length = 1) (hne : bn ≠ gb)
    (hl3 : loc[3]? = some (.ptr bn 0)) (hl4 : loc[4]? = some (.ptr gb 0)) (hl5 : loc[5]? = some (.int (f : Int)))
    {n : Nat} (hf : f < n) (hn : (n : Int) + 1 < 18446744073709551616) (fuel : Nat) :
    exec fuel fkHit { mem := m1, loc := loc } = .ret (.int 0)
      { mem := (m1.set gb { gblk with live := false }).set bn { nblk with slots := nblk.slots.set 0 (.int (f : Int)) }, loc := loc } := by
  have hbn : (m1.set gb { gblk with live := false })[bn]? = some nblk := by rw [set_other hne]; exact n1
  have hst : Mem.storeSlot (m1.set gb { gblk with live := false }) bn 0 (.int (f : Int)) =
      .ok ((m1.set gb { gblk with live := false }).set bn { nblk with slots := nblk.slots.set 0 (.int (f : Int)) }) :=
    storeSlot_of (i := 0) _ hbn n2 n3 (by rw [n4]; exact Nat.one_pos)
  have w0 : wrapTo .u32 0 = 0 := by decide
  unfold fkHit
  rw [exec_seq_normal (fk_free m1 loc gb gblk hgb hgl hl4 fuel)]
  simp [mc_exec, mc_eval, hl3, hl5, convert, wrapTo_u64_nat f (by omega), hst, w0]

/-- `find_key` from the key check on: the last four statements of `find_key_shape` -/
def fkRest : Stmt :=
  .seq (.ite fkNoKey (.seq fkFree (.ret (some (.cast .u32 (.lit 1 .i32))))) .skip)
    (.seq (.expr (.assign (.var 5) (.cast .u64 (.lit 0 .i32)) .u64))
      (.seq (.for (some fkTest) (some (.incdec (.var 5) true true .u64)) fkBody)
        (.seq fkFree (.ret (some (.cast .u32 (.lit 5 .i32)))))))

/-- with `grp` set: the key check, the search, `free(grp)` on each of the three exits.  The memory afterwards is given in full:
    the copy of the group name is dead and, on success, the index stands in `*num`. -/
theorem fk_rest (m1 : Mem) (bk be bn gb : Nat) (ents : Ents) (gv kv : Val) (g k : Option (List UInt8)) (gblk nblk : Block)
    (h1 : KfMem m1 bk be ents) (hk : StrArg m1 kv k) (hgb : m1[gb]? = some gblk) (hgl : gblk.live = true) (hgc : m1.cstr gb 0 = .ok (grpOf g))
    (n1 : m1[bn]? = some nblk) (n2 : nblk.live = true) (n3 : nblk.writable = true) (n4 : nblk.slots.length = 1) (hne : bn ≠ gb)
    (hsmall : (ents.length : Int) + 1 < 18446744073709551616) (fuel : Nat) (hf : ents.length < fuel) :
    ∃ loc', exec fuel fkRest { mem := m1, loc := [.ptr bk 0, gv, kv, .ptr bn 0, .ptr gb 0, .undef] } =
      .ret (.int (fkCode ents g k))
        { mem := if fkCode ents g k = 0 then
            (m1.set gb { gblk with live := false }).set bn { nblk with slots := nblk.slots.set 0 (.int (firstIdx ents (grpOf g) (k.getD []) : Nat)) }
          else m1.set gb { gblk with live := false },
          loc := loc' } := by
  have hnk := fk_nokey m1 [.ptr bk 0, gv, kv, .ptr bn 0, .ptr gb 0, .undef] kv k hk rfl
  unfold fkRest
  by_cases hno : k = none ∨ k = some []
  · -- no key: `grp` is released, ECONF_ERROR
    have hcode : fkCode ents g k = 1 := by
      rcases hno with rfl | rfl <;> rfl
    rw [decide_eq_true hno] at hnk
    rw [hcode, if_neg (by decide)]
    refine ⟨[.ptr bk 0, gv, kv, .ptr bn 0, .ptr gb 0, .undef], exec_seq_ret ?_⟩
    rw [exec_ite_true hnk, exec_seq_normal (fk_free m1 _ gb gblk hgb hgl rfl fuel)]
    exact exec_ret_u32 fuel 1 (by decide) (by decide) _
  · -- a key: the search
    rw [decide_eq_false hno] at hnk
    rw [exec_seq_normal (by rw [exec_ite_false hnk, exec_skip])]
    obtain ⟨ak, c, cs, rfl, rfl, hkc⟩ := hk.nonempty hno
    have hcode : fkCode ents g (some (c :: cs)) = if firstIdx ents (grpOf g) (c :: cs) < ents.length then 0 else 5 := rfl
    have hs := h1.search fuel 0 5 [.ptr bk 0, gv, .ptr ak 0, .ptr bn 0, .ptr gb 0, .undef] fkMatch fkHit
      (.seq fkFree (.ret (some (.cast .u32 (.lit 5 .i32))))) _ _ (firstIdx_eq ents (grpOf g) (c :: cs)) (.int 0) _ rfl (by simp) (by decide) hsmall
      (fun i hi => h1.matchIs (vk := 0) (vi := 5) (vg := 4) (vq := 2) rfl rfl rfl rfl hgc hkc hi)
      (fun hlt => fk_hit m1 _ gb bn _ gblk nblk hgb hgl n1 n2 n3 n4 hne rfl rfl rfl hlt hsmall fuel) hf
    rw [hcode]
    by_cases hlt : firstIdx ents (grpOf g) (c :: cs) < ents.length
    · rw [if_pos hlt] at hs ⊢
      rw [if_pos rfl]
      exact ⟨_, hs⟩
    · rw [if_neg hlt] at hs ⊢
      rw [if_neg (by decide)]
      refine ⟨[.ptr bk 0, gv, .ptr ak 0, .ptr bn 0, .ptr gb 0, .int ents.length], hs.trans ?_⟩
      rw [exec_seq_normal (fk_free m1 _ gb gblk hgb hgl rfl fuel)]
      exact exec_ret_u32 fuel 5 (by decide) (by decide) _

/-- `find_key(kf, group, key, &num)` returns `fkCode`; on success `*num` is the index of the first entry with the group and the key;
    no other block of the caller changes, and what the function allocated and left alive is the read-only literal -/
theorem find_key_exec (m : Mem) (bk be bn : Nat) (ents : Ents) (gv kv : Val) (g k : Option (List UInt8))
    (h : KfMem m bk be ents) (hg : StrArg m gv g) (hk : StrArg m kv k)
    (hn : ∃ blk, m[bn]? = some blk ∧ blk.live = true ∧ blk.writable = true ∧ blk.slots.length = 1)
    (hsmall : (ents.length : Int) + 1 < 18446744073709551616) (fuel : Nat) (hf : ents.length < fuel) :
    ∃ m' loc', exec fuel LeafFns.find_key.body { mem := m, loc := [.ptr bk 0, gv, kv, .ptr bn 0, .undef, .undef] } =
        .ret (.int (fkCode ents g k)) { mem := m', loc := loc' } ∧
      (∀ b, b < m.length → b ≠ bn → m'[b]? = m[b]?) ∧
      (fkCode ents g k = 0 → m'.loadSlot bn 0 = .ok (.int (firstIdx ents (grpOf g) (k.getD [])))) ∧
      (fkCode ents g k ≠ 0 → m'[bn]? = m[bn]?) ∧
      (∀ b blk, m.length ≤ b → m'[b]? = some blk → blk.live = true → blk.writable = false) := by
  obtain ⟨m1, gb, hS1, hgb, hgm, hfr, hro⟩ := fk_grp 4 m [.ptr bk 0, gv, kv, .ptr bn 0, .undef, .undef] gv g hg rfl (by simp) fuel
  replace hS1 : exec fuel _ _ = .normal { mem := m1, loc := [.ptr bk 0, gv, kv, .ptr bn 0, .ptr gb 0, .undef] } := hS1
  obtain ⟨nblk, n1, n2, n3, n4⟩ := hn
  obtain ⟨gblk, g1, g2, _⟩ := hgm.blk
  have hbn : bn < m.length := (List.getElem?_eq_some_iff.1 n1).1
  have hne : bn ≠ gb := Nat.ne_of_lt (Nat.lt_of_lt_of_le hbn hgb)
  have n1' : m1[bn]? = some nblk := (hfr bn hbn).trans n1
  obtain ⟨loc', hR⟩ := fk_rest m1 bk be bn gb ents gv kv g k gblk nblk (h.mono hfr) (hk.mono hfr) g1 g2 (hgm.cstr0 (rest := []) hg.grp_nz)
    n1' n2 n3 n4 hne hsmall fuel hf
  have hS2 := exec_ite_null_skip fuel 4 gb (.ret (some (.cast .u32 (.lit 2 .i32)))) m1 [.ptr bk 0, gv, kv, .ptr bn 0, .ptr gb 0, .undef] rfl
  -- the memory with `grp` released, seen from the caller
  have hframe : ∀ b, b < m.length → (m1.set gb { gblk with live := false })[b]? = m[b]? := by
    intro b hb
    rw [set_other (Nat.ne_of_lt (Nat.lt_of_lt_of_le hb hgb)), hfr b hb]
  have hleak : ∀ b blk, m.length ≤ b → (m1.set gb { gblk with live := false })[b]? = some blk → blk.live = true → blk.writable = false := by
    intro b blk hb hsome hlive
    by_cases hbg : b = gb
    · subst hbg
      rw [List.getElem?_set_self (List.getElem?_eq_some_iff.1 g1).1] at hsome
      rw [← Option.some.inj hsome] at hlive
      exact absurd hlive (by simp)
    · rw [set_other hbg] at hsome
      exact hro b blk hb hbg hsome
  rw [find_key_shape, exec_seq_normal hS1, exec_seq_normal hS2]
  refine ⟨_, loc', hR, ?_, ?_, ?_, ?_⟩
  · intro b hb hbne
    split
    · rw [set_other hbne, hframe b hb]
    · exact hframe b hb
  · intro hc
    have hl : bn < (m1.set gb { gblk with live := false }).length := by
      rw [List.length_set]
      exact (List.getElem?_eq_some_iff.1 n1').1
    rw [if_pos hc]
    exact loadSlot_of (i := 0) (List.getElem?_set_self hl) n2 (List.getElem?_set_self (by rw [n4]; exact Nat.one_pos)) (by simp)
  · intro hc
    rw [if_neg hc, hframe bn hbn]
  · intro b blk hb
    split
    · rw [set_other (Nat.ne_of_gt (Nat.lt_of_lt_of_le hbn hb))]
      exact hleak b blk hb
    · exact hleak b blk hb

/-! ### the list-level model of `find_key` -/

theorem grpOf_eq (g : Option (List UInt8)) : grpOf g = Econf.rawGroup g := by
  cases g <;> rfl

theorem firstIdx_found (es : List Econf.Entry) (g k : List UInt8) :
    decide (firstIdx (entsOf es) g k < es.length) = (Econf.findIdx es g k).isSome := by
  rw [firstIdx_entsOf, Econf.findIdx, List.findIdx?_isSome]
  exact decide_findIdx_lt _ es

/-- the outcomes of the model's `findKey`: an error for no or an empty key; otherwise the first entry with the group and the
    key, if there is one -/
theorem findKey_cases (es : List Econf.Entry) (g : List UInt8) (k : Option (List UInt8)) :
    Econf.findKey { entries := es } g k =
      match k with
      | none => .error .error
      | some [] => .error .error
      | some (c :: cs) =>
        if firstIdx (entsOf es) g (c :: cs) < es.length then .ok (firstIdx (entsOf es) g (c :: cs)) else .error .nokey := by
  rcases k with _ | _ | ⟨c, cs⟩
  · rfl
  · rfl
  · have hf := firstIdx_found es g (c :: cs)
    have hm := firstIdx_model es g (c :: cs)
    simp only [Econf.findKey, List.isEmpty_cons, Bool.false_eq_true, if_false]
    cases hi : Econf.findIdx es g (c :: cs) with
    | none =>
      rw [hi] at hf
      rw [if_neg (of_decide_eq_false hf)]
    | some i =>
      rw [hi] at hf hm
      rw [if_pos (of_decide_eq_true hf), hm]
      rfl

/-- the result code of the C function is the model's: ECONF_ERROR for a missing or empty key, ECONF_NOKEY when no entry of
    the group has the key, success otherwise -/
theorem fkCode_model (es : List Econf.Entry) (g k : Option (List UInt8)) :
    fkCode (entsOf es) g k =
      match Econf.findKey { entries := es } (Econf.rawGroup g) k with
      | .ok _ => 0
      | .error e => (e.code : Int) := by
  rw [findKey_cases, ← grpOf_eq]
  rcases k with _ | _ | ⟨c, cs⟩
  · rfl
  · rfl
  · simp only [fkCode, entsOf_length]
    split <;> rfl

/-- `find_key` (lib/helpers.c) on the translated term, for every object, every group argument (NULL, empty, a name) and every
    key argument: no fault; the copy of the group name is released on every path (nothing the function allocated is alive
    afterwards but the read-only literal); memory the caller can see is untouched except `*num`; the code returned is the
    model's `findKey`, and on success `*num` is the index the model finds. -/
theorem C_find_key (m : Mem) (bk be bn : Nat) (es : List Econf.Entry) (gv kv : Val) (g k : Option (List UInt8))
    (h : KfMem m bk be (entsOf es)) (hg : StrArg m gv g) (hk : StrArg m kv k)
    (hn : ∃ blk, m[bn]? = some blk ∧ blk.live = true ∧ blk.writable = true ∧ blk.slots.length = 1)
    (hsmall : (es.length : Int) + 1 < 18446744073709551616) (fuel : Nat) (hf : es.length < fuel) :
    ∃ m' loc' code, exec fuel LeafFns.find_key.body { mem := m, loc := [.ptr bk 0, gv, kv, .ptr bn 0, .undef, .undef] } =
        .ret (.int code) { mem := m', loc := loc' } ∧
      (match Econf.findKey { entries := es } (Econf.rawGroup g) k with
       | .ok i => code = 0 ∧ m'.loadSlot bn 0 = .ok (.int (i : Int))
       | .error e => code = (e.code : Int) ∧ m'[bn]? = m[bn]?) ∧
      (∀ b, b < m.length → b ≠ bn → m'[b]? = m[b]?) ∧
      (∀ b blk, m.length ≤ b → m'[b]? = some blk → blk.live = true → blk.writable = false) := by
  have hl := entsOf_length es
  obtain ⟨m', loc', he, hfr, h0, hne, hlk⟩ := find_key_exec m bk be bn (entsOf es) gv kv g k h hg hk hn (by rw [hl]; exact hsmall) fuel (by rw [hl]; exact hf)
  refine ⟨m', loc', _, he, ?_, hfr, hlk⟩
  rw [findKey_cases, ← grpOf_eq]
  rcases k with _ | _ | ⟨c, cs⟩
  · exact ⟨rfl, hne (show (1 : Int) ≠ 0 by decide)⟩
  · exact ⟨rfl, hne (show (1 : Int) ≠ 0 by decide)⟩
  · have hc : fkCode (entsOf es) g (some (c :: cs)) = if firstIdx (entsOf es) (grpOf g) (c :: cs) < es.length then 0 else 5 := by
      rw [← hl]
      rfl
    rw [hc] at h0 hne ⊢
    by_cases hlt : firstIdx (entsOf es) (grpOf g) (c :: cs) < es.length
    · rw [if_pos hlt] at h0
      dsimp only
      rw [if_pos hlt, if_pos hlt]
      exact ⟨rfl, h0 rfl⟩
    · rw [if_neg hlt] at hne
      dsimp only
      rw [if_neg hlt, if_neg hlt]
      exact ⟨rfl, hne (by decide)⟩

end LeafKf
