import Econf.Lemmas.NumLemmas
import Econf.Props.C07
import Econf.KeyFileOps
import Econf.Props.C11

/-!
  C08 — typed values survive set/get exactly.

  Integers: the setter stores `printf("%d")`/`printf("%u")` of the value (`showInt`/`showNat`,
  the formats are re-extracted from lib/keyfile.c into Generated/Facts.lean), the getter scans it
  with the `strtol` model and applies its range checks; the theorems hold for every value of the
  type, without bound on the magnitude.  Booleans: every accepted spelling canonicalises to
  `true`/`false` and reads back.  Floats: see `Econf/FloatThm.lean` (digits-suffice theorem) and
  the exhaustive direct oracle of the check.
-/

namespace Econf

theorem getSigned_showInt (i llo lhi lo hi : Int) (h1 : llo ≤ lo) (h2 : hi ≤ lhi) (hlo : lo ≤ i) (hhi : i ≤ hi) :
    getSigned llo lhi lo hi (showInt i) = .ok i := by
  have hv : strtoVal (strtoCore (showInt i)) = i := by
    rw [strtoCore_showInt]
    unfold strtoVal
    by_cases hi : i < 0 <;> simp [hi] <;> omega
  rw [getSigned_eq llo lhi lo hi h1 h2 _ i (by rw [strtoCore_showInt]) hv, if_pos ⟨hlo, hhi⟩]

/-- every int32 value: get (set n) = n -/
theorem C08_int32 (i : Int) (h1 : I32MIN ≤ i) (h2 : i ≤ I32MAX) : getInt32 (showInt i) = .ok i :=
  getSigned_showInt i _ _ _ _ (by decide) (by decide) h1 h2

theorem C08_int64 (i : Int) (h1 : I64MIN ≤ i) (h2 : i ≤ I64MAX) : getInt64 (showInt i) = .ok i :=
  getSigned_showInt i _ _ _ _ (by decide) (by decide) h1 h2

theorem getUnsigned_showNat (n lmax max : Nat) (hm : max ≤ lmax) (h : n ≤ max) :
    getUnsigned lmax max (showNat n) = .ok n := by
  unfold getUnsigned
  rw [strtoCore_showNat]
  have a : ¬ n > lmax := by omega
  have b : ¬ n > max := by omega
  simp [a, b]

theorem C08_uint32 (n : Nat) (h : n ≤ U32MAX) : getUInt32 (showNat n) = .ok n :=
  getUnsigned_showNat n _ _ (by decide) h

theorem C08_uint64 (n : Nat) (h : n ≤ U64MAX) : getUInt64 (showNat n) = .ok n :=
  getUnsigned_showNat n _ _ (by decide) h

/-- through the object: what a typed setter stored is what the matching getter returns, for every
    object, section and (non-empty) key — composition with the ordered-map law of C11 -/
theorem C08_int32_object (kf : KeyFile) (g : Option Str) (k : Str) (hk : k ≠ []) (i : Int)
    (h1 : I32MIN ≤ i) (h2 : i ≤ I32MAX) :
    getTyped getInt32 (setValue kf g (some k) (.ok (showInt i))).1 g (some k) = .ok i := by
  unfold getTyped; rw [C11_get_set_same kf g k _ hk]; exact C08_int32 i h1 h2

theorem C08_uint64_object (kf : KeyFile) (g : Option Str) (k : Str) (hk : k ≠ []) (n : Nat) (h : n ≤ U64MAX) :
    getTyped getUInt64 (setValue kf g (some k) (.ok (showNat n))).1 g (some k) = .ok n := by
  unfold getTyped; rw [C11_get_set_same kf g k _ hk]; exact C08_uint64 n h

/-- the printed text of an integer has the unambiguous textual form of DESIGN.md 5.4: digits with
    an optional leading minus sign — no blanks, quotes, comment characters or delimiters -/
def isNumChar (c : Byte) : Bool := (0x30 ≤ c && c ≤ 0x39) || c == 0x2D

theorem toDigitsAux_chars (fuel n : Nat) (acc : Str) (h : ∀ c ∈ acc, isNumChar c = true) :
    ∀ c ∈ toDigitsAux fuel n acc, isNumChar c = true := by
  have hd : ∀ d : Fin 10, isNumChar (digitChar d.val) = true := by decide
  induction fuel generalizing n acc with
  | zero => simpa [toDigitsAux] using h
  | succ f ih =>
    unfold toDigitsAux
    split
    · intro c hc
      rcases List.mem_cons.mp hc with rfl | hc
      · exact hd ⟨n, by omega⟩
      · exact h c hc
    · apply ih
      intro c hc
      rcases List.mem_cons.mp hc with rfl | hc
      · exact hd ⟨n % 10, Nat.mod_lt _ (by omega)⟩
      · exact h c hc

theorem C08_text_form (i : Int) : ∀ c ∈ showInt i, isNumChar c = true := by
  unfold showInt showNat
  split
  · intro c hc
    rcases List.mem_cons.mp hc with rfl | hc
    · decide
    · exact toDigitsAux_chars _ _ [] (by simp) c hc
  · exact toDigitsAux_chars _ _ [] (by simp)

def caseVariants : Str → List Str
  | [] => [[]]
  | c :: cs => (caseVariants cs).flatMap (fun r => if 0x61 ≤ c && c ≤ 0x7A then [c :: r, (c - 0x20) :: r] else [c :: r])

def TRUE_SPELLINGS : List Str := [[0x31]] ++ caseVariants [0x79, 0x65, 0x73] ++ caseVariants [0x74, 0x72, 0x75, 0x65]
def FALSE_SPELLINGS : List Str := [[0x30]] ++ caseVariants [0x6e, 0x6f] ++ caseVariants [0x66, 0x61, 0x6c, 0x73, 0x65]

theorem ok_of_toOption {ε α} {e : Except ε α} {a : α} (h : e.toOption = some a) : e = .ok a := by
  cases e with
  | ok b => exact congrArg Except.ok (Option.some.inj h)
  | error _ => cases h

/-- every accepted boolean spelling (1, 0 and all 8+4+16+32 case variants of yes/no/true/false):
    the setter stores the canonical word and the getter returns the truth value -/
theorem C08_bool :
    (∀ s ∈ TRUE_SPELLINGS, setBoolText s = .ok [0x74, 0x72, 0x75, 0x65] ∧ getBool [0x74, 0x72, 0x75, 0x65] = .ok true ∧ getBool s = .ok true) ∧
    (∀ s ∈ FALSE_SPELLINGS, setBoolText s = .ok [0x66, 0x61, 0x6c, 0x73, 0x65] ∧ getBool [0x66, 0x61, 0x6c, 0x73, 0x65] = .ok false ∧ getBool s = .ok false) ∧
    TRUE_SPELLINGS.length = 25 ∧ FALSE_SPELLINGS.length = 37 := by
  have ht : ∀ s ∈ TRUE_SPELLINGS, (setBoolText s).toOption = some [0x74, 0x72, 0x75, 0x65] ∧
      (getBool [0x74, 0x72, 0x75, 0x65]).toOption = some true ∧ (getBool s).toOption = some true := by decide +kernel
  have hf : ∀ s ∈ FALSE_SPELLINGS, (setBoolText s).toOption = some [0x66, 0x61, 0x6c, 0x73, 0x65] ∧
      (getBool [0x66, 0x61, 0x6c, 0x73, 0x65]).toOption = some false ∧ (getBool s).toOption = some false := by decide +kernel
  exact ⟨fun s hs => ⟨ok_of_toOption (ht s hs).1, ok_of_toOption (ht s hs).2.1, ok_of_toOption (ht s hs).2.2⟩,
    fun s hs => ⟨ok_of_toOption (hf s hs).1, ok_of_toOption (hf s hs).2.1, ok_of_toOption (hf s hs).2.2⟩, rfl, rfl⟩

/-- non-vacuity: the limits of the types are in range and printed as expected -/
example : showInt I32MIN = [0x2D, 0x32, 0x31, 0x34, 0x37, 0x34, 0x38, 0x33, 0x36, 0x34, 0x38] ∧
    showNat 0 = [0x30] ∧ I32MIN ≤ I32MIN ∧ I32MIN ≤ I32MAX := by decide

theorem forall_byte (P : Byte → Prop) (h : ∀ n : Fin 256, P (UInt8.ofNat n.val)) (c : Byte) : P c := by
  have := h ⟨c.toNat, c.toNat_lt⟩
  simpa using this

theorem numChar_props (c : Byte) : isNumChar c = true → isText c = true ∧ isSpace c = false ∧ c ≠ QUOTE := by
  apply forall_byte (fun c => isNumChar c = true → isText c = true ∧ isSpace c = false ∧ c ≠ QUOTE)
  decide +kernel

/-- the text a typed integer setter stores is a 5.4 value for every comment character that is not a
    digit or the minus sign: the `val` clause of `WEntry.WF` holds -/
theorem C08_text_is_54 (c : Byte) (hc : isNumChar c = false) (i : Int) :
    texts (showInt i) ∧ c ∉ showInt i ∧ (∀ ch, (showInt i).head? = some ch → isSpace ch = false ∧ ch ≠ QUOTE) ∧
    (∀ ch, (showInt i).getLast? = some ch → isSpace ch = false) := by
  have hall := C08_text_form i
  refine ⟨fun ch hch => (numChar_props ch (hall ch hch)).1, ?_, ?_, ?_⟩
  · intro hin; have := hall c hin; rw [hc] at this; cases this
  · intro ch hch
    have hm : ch ∈ showInt i := List.mem_of_mem_head? hch
    exact ⟨(numChar_props ch (hall ch hm)).2.1, (numChar_props ch (hall ch hm)).2.2⟩
  · intro ch hch
    have hm : ch ∈ showInt i := List.mem_of_getLast? hch
    exact (numChar_props ch (hall ch hm)).2.1

/-- **C08 through a file** (integers): an entry whose value was stored by a typed integer setter is
    written, read back with the same characters, and the typed getter returns the number – for every
    int64 value, whatever else the object holds (composition of C07 and C08) -/
theorem C08_through_file (d c : Byte) (hT : TagsWF d c) (ws : List WEntry)
    (h : ∀ w ∈ ws, w.WF d c) (ho : Ordered none ws) (w : WEntry) (hw : w ∈ ws) (i : Int)
    (hval : w.val = .plain (showInt i) []) (h1 : I64MIN ≤ i) (h2 : i ≤ I64MAX) :
    ∃ st e, parseBytes (tagCfg d c) (writeSeq d c none (ws.map WEntry.toEntry)) = .ok st ∧ e ∈ st.entries ∧
      e.group = w.group ∧ e.key = w.key ∧ getInt64 (e.value.getD []) = .ok i := by
  obtain ⟨st, hp, he, _⟩ := C07_roundtrip d c hT ws h ho
  have hm : w.toEntry.content ∈ st.entries.map Entry.content := by
    rw [he]; exact List.mem_map.mpr ⟨w, hw, rfl⟩
  obtain ⟨e, hem, hec⟩ := List.mem_map.mp hm
  refine ⟨st, e, hp, hem, ?_, ?_, ?_⟩
  · have := congrArg (·.1) hec; exact this
  · have := congrArg (·.2.1) hec; exact this
  · have hv : e.value.getD [] = w.toEntry.value.getD [] := congrArg (·.2.2.1) hec
    rw [hv]
    simp only [WEntry.toEntry, hval, WVal.value, List.flatMap_nil, List.append_nil, Option.getD_some]
    exact C08_int64 i h1 h2

end Econf
