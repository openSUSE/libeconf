import Econf.Props.LeafKf

/-!
  # The group list and the copying of entries, on the terms generated from the C source

  `getFromGroupList`, `setGroupList`, `cpy_file_entry` (lib/helpers.c) and the append step of the merge loops (lib/mergefiles.c):
  the object's `groups` array (`GlMem`), one entry of an entry array with its strings (`EntMem`).
-/
open MiniC Leaf
namespace LeafKf

/-! ## the group list of an `econf_file` in memory -/

/-- block `bk` holds an `econf_file` whose `groups` member points at block `bl`, an array of `group_count` pointers to the
    C strings `gl[i].2` (in the blocks `gl[i].1`) followed by a NULL pointer.  Words 13 and 14 are `groups` and `group_count` of
    `struct econf_file` in the order `LeafFns.records` (Generated/LeafFns.lean) fixes. -/
structure GlMemA (m : Mem) (bk bl : Nat) (gl : List (Nat × List UInt8)) : Prop where
  kf : ∃ blk, m[bk]? = some blk ∧ blk.live = true ∧ blk.slots[13]? = some (.ptr bl 0) ∧ blk.slots[14]? = some (.int gl.length)
  arr : ∃ blk, m[bl]? = some blk ∧ blk.live = true ∧ blk.slots.length = gl.length + 1 ∧
    ∀ i (h : i < gl.length), blk.slots[i]? = some (.ptr (gl[i]).1 0) ∧ m.cstr (gl[i]).1 0 = .ok (gl[i]).2

/-- block `bk` holds an `econf_file` without a group array: `groups == NULL`, `group_count == 0` (the object as `calloc` leaves it) -/
def GlNull (m : Mem) (bk : Nat) : Prop :=
  ∃ blk, m[bk]? = some blk ∧ blk.live = true ∧ blk.slots[13]? = some .null ∧ blk.slots[14]? = some (.int 0)

/-- the group list of the `econf_file` in block `bk`: either the array in block `bl` (`GlMemA`), or – for the empty list only – no array
    at all (`groups == NULL`).  In the second case there is no array block; `bl` is then `bk` itself by convention, so that "the blocks
    of the object" (`bk`, `bl`) are always blocks that exist, and a frame "every block other than `bk` and `bl`" says the right thing. -/
def GlMem (m : Mem) (bk bl : Nat) (gl : List (Nat × List UInt8)) : Prop :=
  GlMemA m bk bl gl ∨ (gl = [] ∧ bl = bk ∧ GlNull m bk)

theorem GlNull.toGlMem {m bk} (h : GlNull m bk) : GlMem m bk bk [] := Or.inr ⟨rfl, rfl, h⟩

theorem GlMemA.toGlMem {m bk bl gl} (h : GlMemA m bk bl gl) : GlMem m bk bl gl := Or.inl h

theorem GlMem.toA' {m bk bl gl} (h : GlMem m bk bl gl) (hne : gl ≠ []) : GlMemA m bk bl gl := by
  rcases h with h | ⟨rfl, _, _⟩
  · exact h
  · exact absurd rfl hne

theorem GlMem.toA {m bk bl gl} (h : GlMem m bk bl gl) {i : Nat} (hi : i < gl.length) : GlMemA m bk bl gl :=
  h.toA' (fun hg => by subst hg; exact Nat.not_lt_zero _ hi)

theorem GlMem.obj {m bk bl gl} (h : GlMem m bk bl gl) :
    ∃ blk, m[bk]? = some blk ∧ blk.live = true ∧ blk.slots[14]? = some (.int gl.length) ∧
      (blk.slots[13]? = some (.ptr bl 0) ∨ blk.slots[13]? = some .null) := by
  rcases h with h | ⟨rfl, _, blk, h1, h2, h3, h4⟩
  · obtain ⟨blk, h1, h2, h3, h4⟩ := h.kf
    exact ⟨blk, h1, h2, h4, Or.inl h3⟩
  · exact ⟨blk, h1, h2, by simpa using h4, Or.inr h3⟩

theorem GlMem.bk_lt {m bk bl gl} (h : GlMem m bk bl gl) : bk < m.length := by
  obtain ⟨blk, h1, _⟩ := h.obj
  exact (List.getElem?_eq_some_iff.1 h1).1

/-- `bl` is a block of the memory in either case (the array, or the object itself when there is no array) -/
theorem GlMem.bl_lt {m bk bl gl} (h : GlMem m bk bl gl) : bl < m.length := by
  rcases h with h | ⟨_, rfl, blk, h1, _⟩
  · obtain ⟨blk, h1, _⟩ := h.arr
    exact (List.getElem?_eq_some_iff.1 h1).1
  · exact (List.getElem?_eq_some_iff.1 h1).1

theorem GlMem.str {m bk bl gl} (h : GlMem m bk bl gl) (i : Nat) (hi : i < gl.length) : m.cstr (gl[i]).1 0 = .ok (gl[i]).2 := by
  obtain ⟨blk, _, _, _, h4⟩ := (h.toA hi).arr
  exact (h4 i hi).2

theorem GlMem.str_lt {m bk bl gl} (h : GlMem m bk bl gl) {x : Nat × List UInt8} (hx : x ∈ gl) : x.1 < m.length := by
  obtain ⟨i, hi, rfl⟩ := List.getElem_of_mem hx
  exact cstr_lt (h.str i hi)

/-- the object and its array are two blocks: for the empty list because an array of one word has no word 13, otherwise by the
    hypothesis -/
theorem GlMemA.ne {m bk bl gl} (h : GlMemA m bk bl gl) (hne : gl ≠ [] → bk ≠ bl) : bk ≠ bl := by
  by_cases hg : gl = []
  · subst hg
    intro hb
    subst hb
    obtain ⟨kb, k1, k2, k3, k4⟩ := h.kf
    obtain ⟨gb, g1, g2, g3, g4⟩ := h.arr
    rw [k1] at g1; injection g1 with g1; subst g1
    have := (List.getElem?_eq_some_iff.1 k3).1
    simp at g3
    omega
  · exact hne hg

/-- the group list read through the blocks it uses only -/
theorem GlMem.mono_of {m m' : Mem} {bk bl : Nat} {gl : List (Nat × List UInt8)} (h : GlMem m bk bl gl)
    (hk : m'[bk]? = m[bk]?) (hl : m'[bl]? = m[bl]?) (hs : ∀ b str, m.cstr b 0 = .ok str → (∃ e, e ∈ gl ∧ e.1 = b) → m'[b]? = m[b]?) : GlMem m' bk bl gl := by
  rcases h with h | ⟨hg, hb, blk, h1, h2, h3, h4⟩
  · obtain ⟨kblk, k1, k2, k3, k4⟩ := h.kf
    obtain ⟨gblk, g1, g2, g3, g4⟩ := h.arr
    refine Or.inl ⟨⟨kblk, by rw [hk]; exact k1, k2, k3, k4⟩, ⟨gblk, by rw [hl]; exact g1, g2, g3, fun i hi => ?_⟩⟩
    obtain ⟨e1, e2⟩ := g4 i hi
    exact ⟨e1, by rw [cstr_congr (hs _ _ e2 ⟨gl[i], List.getElem_mem hi, rfl⟩)]; exact e2⟩
  · exact Or.inr ⟨hg, hb, blk, by rw [hk]; exact h1, h2, h3, h4⟩

/-- … in particular in a memory that keeps every block of the old one -/
theorem GlMem.grow {m m' : Mem} {bk bl : Nat} {gl : List (Nat × List UInt8)} (h : GlMem m bk bl gl)
    (hm : ∀ b, b < m.length → m'[b]? = m[b]?) : GlMem m' bk bl gl :=
  h.mono_of (hm bk h.bk_lt) (hm bl h.bl_lt) (fun b _ hc _ => hm b (cstr_lt hc))

theorem GlMem.mono {m m' : Mem} {bk bl : Nat} {gl : List (Nat × List UInt8)} (h : GlMem m bk bl gl) (L : Nat)
    (hm : ∀ b, b < m.length → b ≠ L → m'[b]? = m[b]?) (h1 : bk ≠ L) (h2 : bl ≠ L) (h3 : ∀ e, e ∈ gl → e.1 ≠ L) : GlMem m' bk bl gl :=
  h.mono_of (hm bk h.bk_lt h1) (hm bl h.bl_lt h2) (fun b _ hc ⟨e, he, hb⟩ => hm b (cstr_lt hc) (hb ▸ h3 e he))

/-- no name of the list lives in a block of words -/
theorem GlMem.str_ne {m bk bl gl} (h : GlMem m bk bl gl) {L : Nat} {blk : Block} (hL : m[L]? = some blk) (hc : blk.cells = [])
    {x : Nat × List UInt8} (hx : x ∈ gl) : x.1 ≠ L := by
  obtain ⟨i, hi, rfl⟩ := List.getElem_of_mem hx
  exact fun hh => no_cstr hL hc _ (hh ▸ h.str i hi)

theorem GlMem.count {m bk bl gl} (h : GlMem m bk bl gl) : m.loadSlot bk 14 = .ok (.int gl.length) := by
  obtain ⟨blk, h1, h2, h4, _⟩ := h.obj
  simpa using loadSlot_of (i := 14) h1 h2 h4 (by simp)

theorem GlMemA.arrp {m bk bl gl} (h : GlMemA m bk bl gl) : m.loadSlot bk 13 = .ok (.ptr bl 0) := by
  obtain ⟨blk, h1, h2, h3, _⟩ := h.kf
  simpa using loadSlot_of (i := 13) h1 h2 h3 (by simp)

theorem GlMemA.sidx {m bk bl gl} (h : GlMemA m bk bl gl) (i : Nat) (hi : i ≤ gl.length) :
    slotAdd m bl 0 (i : Int) = .ok (.ptr bl (i : Int)) := by
  obtain ⟨blk, h1, h2, h3, _⟩ := h.arr
  exact slotAdd_of i h1 h2 (by rw [h3]; exact Nat.le_succ_of_le hi)

theorem GlMemA.elem {m bk bl gl} (h : GlMemA m bk bl gl) (i : Nat) (hi : i < gl.length) :
    m.loadSlot bl (i : Int) = .ok (.ptr (gl[i]).1 0) ∧ m.cstr (gl[i]).1 0 = .ok (gl[i]).2 := by
  obtain ⟨blk, h1, h2, h3, h4⟩ := h.arr
  obtain ⟨e1, e2⟩ := h4 i hi
  exact ⟨loadSlot_of h1 h2 e1 (by simp), e2⟩

/-- index of the first name equal to `nm`; the number of names when there is none -/
def firstN (gl : List (Nat × List UInt8)) (nm : List UInt8) : Nat := (gl.takeWhile (fun e => !(e.2 == nm))).length

theorem firstN_eq (gl : List (Nat × List UInt8)) (nm) : firstN gl nm = gl.findIdx (fun e => e.2 == nm) := length_takeWhile_not _ gl

theorem firstN_le (gl) (nm) : firstN gl nm ≤ gl.length := (List.takeWhile_sublist _).length_le

theorem firstN_before (gl : List (Nat × List UInt8)) (nm) : ∀ i (h : i < firstN gl nm), (gl[i]'(Nat.lt_of_lt_of_le h (firstN_le gl nm))).2 ≠ nm := by
  intro i h
  rw [firstN_eq] at h
  simpa using List.not_of_lt_findIdx h

theorem firstN_at (gl : List (Nat × List UInt8)) (nm) (h : firstN gl nm < gl.length) : (gl[firstN gl nm]).2 = nm := by
  simp only [firstN_eq] at h ⊢
  simpa using List.findIdx_getElem (w := h)

theorem firstN_mem (gl : List (Nat × List UInt8)) (nm : List UInt8) : firstN gl nm < gl.length ↔ nm ∈ gl.map (·.2) := by
  rw [firstN_eq, List.findIdx_lt_length]
  simp

/-! ## `getFromGroupList` (lib/helpers.c) -/

/-- `kf->groups[i]`, `kf` in variable 0, `i` in variable 3 -/
def glElem : Expr := .load (.slot (.sidx (.load (.slot (.load (.var 0) .ptr) 13) .ptr) (.load (.var 3) .i32) 1) 0) .ptr
def glMatch : Expr := .un .lnot (.call "strcmp" (.cons glElem (.cons (.load (.var 1) .ptr) .nil))) .i32
def glTake : Stmt := .seq (.expr (.assign (.var 2) glElem .ptr))
  (.expr (.assign (.var 3) (.load (.slot (.load (.var 0) .ptr) 14) .i32) .i32))
def glBody : Stmt := .ite glMatch glTake .skip
def glTest : Expr := .bin .lt (.load (.var 3) .i32) (.load (.slot (.load (.var 0) .ptr) 14) .i32) .i32

theorem getFromGroupList_shape : LeafFns.getFromGroupList.body =
    .seq (.expr (.assign (.var 2) .null .ptr))
      (.seq (.expr (.assign (.var 3) (.lit 0 .i32) .i32))
        (.seq (.for (some glTest) (some (.incdec (.var 3) true true .i32)) glBody)
          (.ret (some (.load (.var 2) .ptr))))) := rfl

/-- `i < kf->group_count` -/
theorem gl_test {m : Mem} {bk bl : Nat} {gl : List (Nat × List UInt8)} (h : GlMem m bk bl gl) (a r : Val) (c : Int) :
    testOf (some glTest) { mem := m, loc := [.ptr bk 0, a, r, .int c] } =
      .ok (decide (c < (gl.length : Int)), { mem := m, loc := [.ptr bk 0, a, r, .int c] }) := by
  have hcnt := h.count
  by_cases hc : c < (gl.length : Int) <;> simp [mc_eval, glTest, testOf, hcnt, binop, cmpInt, boolVal, truth, hc]

theorem gl_elem {m : Mem} {bk bl : Nat} {gl : List (Nat × List UInt8)} (h : GlMemA m bk bl gl) (a r : Val) (i : Nat) (hi : i < gl.length) :
    evalE glElem { mem := m, loc := [.ptr bk 0, a, r, .int (i : Int)] } = .ok (.ptr (gl[i]).1 0, { mem := m, loc := [.ptr bk 0, a, r, .int (i : Int)] }) := by
  have hp := evalE_load_slot (.load (.var 0) .ptr) 13 .ptr { mem := m, loc := [.ptr bk 0, a, r, .int (i : Int)] } bk 0 _ rfl (by simpa using h.arrp)
  exact evalE_load_slot _ 0 .ptr _ bl (i : Int) _ (evalE_sidx_of _ _ _ _ bl 0 (i : Int) 1 _ hp rfl (by simpa using h.sidx i (Nat.le_of_lt hi)))
    (by simpa using (h.elem i hi).1)

/-- `!strcmp(kf->groups[i], name)` -/
theorem gl_match {m : Mem} {bk bl an : Nat} {gl : List (Nat × List UInt8)} {nm : List UInt8} (h : GlMemA m bk bl gl)
    (hn : m.cstr an 0 = .ok nm) (r : Val) (i : Nat) (hi : i < gl.length) :
    testOf (some glMatch) { mem := m, loc := [.ptr bk 0, .ptr an 0, r, .int (i : Int)] } =
      .ok ((gl[i]).2 == nm, { mem := m, loc := [.ptr bk 0, .ptr an 0, r, .int (i : Int)] }) := by
  have he := gl_elem h (.ptr an 0) r i hi
  rw [glMatch, testOf_boolVal (lnot_strcmp he (evalE_var (ty := .ptr) rfl (by simp)) (h.elem i hi).2 hn)]

/-- `ret = kf->groups[i]; i = kf->group_count;` -/
theorem gl_take {m : Mem} {bk bl : Nat} {gl : List (Nat × List UInt8)} (h : GlMemA m bk bl gl) (fuel : Nat) (a r : Val) (i : Nat)
    (hi : i < gl.length) (hsmall : (gl.length : Int) < 2147483648) :
    exec fuel glTake { mem := m, loc := [.ptr bk 0, a, r, .int (i : Int)] } =
      .normal { mem := m, loc := [.ptr bk 0, a, .ptr (gl[i]).1 0, .int (gl.length : Int)] } := by
  have hw : convert .i32 (.int (gl.length : Int)) = .ok (.int (gl.length : Int)) := by
    simp [convert, wrapTo_i32 _ (by omega) hsmall]
  have hc := evalE_load_slot (.load (.var 0) .ptr) 14 .i32 { mem := m, loc := [.ptr bk 0, a, .ptr (gl[i]).1 0, .int (i : Int)] } bk 0 _ rfl
    (by simpa using h.toGlMem.count)
  unfold glTake
  rw [exec_seq_normal (exec_assign_var (fuel := fuel) (t := 2) (ty := .ptr) (gl_elem h a r i hi) rfl (by simp))]
  exact exec_assign_var (fuel := fuel) (t := 3) (ty := .i32) hc hw (by simp)

/-- `getFromGroupList(kf, name)` returns the element of `kf->groups` for the first name equal to `name`, NULL when there is none, and
    changes no memory.  `group_count + 1 < 2^31` (`int`) is for the `i++` after `i = kf->group_count`. -/
theorem getFromGroupList_exec (m : Mem) (bk bl an : Nat) (gl : List (Nat × List UInt8)) (nm : List UInt8) (h : GlMem m bk bl gl)
    (hn : m.cstr an 0 = .ok nm) (hsmall : (gl.length : Int) + 1 < 2147483648) (fuel : Nat) (hf : gl.length + 1 < fuel) :
    ∃ loc', exec fuel LeafFns.getFromGroupList.body { mem := m, loc := [.ptr bk 0, .ptr an 0, .undef, .undef] } =
      .ret (if hlt : firstN gl nm < gl.length then .ptr (gl[firstN gl nm]).1 0 else .null) { mem := m, loc := loc' } := by
  have hs0 : (gl.length : Int) < 2147483648 := by omega
  have hs1 : -2147483648 ≤ (gl.length : Int) + 1 := by omega
  have hfle := firstN_le gl nm
  let A : Nat → St := fun i => { mem := m, loc := [.ptr bk 0, .ptr an 0, .null, .int (i : Int)] }
  have hinit1 : exec fuel (.expr (.assign (.var 2) .null .ptr)) { mem := m, loc := [.ptr bk 0, .ptr an 0, .undef, .undef] } =
      .normal { mem := m, loc := [.ptr bk 0, .ptr an 0, .null, .undef] } := by
    simp [mc_exec, mc_eval, convert]
  have hinit2 : exec fuel (.expr (.assign (.var 3) (.lit 0 .i32) .i32)) { mem := m, loc := [.ptr bk 0, .ptr an 0, .null, .undef] } = .normal (A 0) := by
    simp [mc_exec, mc_eval, convert, wrapTo_i32 0 (by omega) (by omega), A]
  rw [getFromGroupList_shape, exec_seq_normal hinit1, exec_seq_normal hinit2]
  have htest : ∀ i, i < gl.length → testOf (some glTest) (A i) = .ok (true, A i) := fun i hi => by
    rw [gl_test h, decide_eq_true (Int.ofNat_lt.2 hi)]
  have hstep : ∀ i, i < gl.length → stepOf (some (.incdec (.var 3) true true .i32)) (A i) = .ok (A (i + 1)) := fun i hi => by
    have := incdec_i32_var3 m (.ptr bk 0) (.ptr an 0) .null (i : Int) (by omega) (by omega)
    exact stepOf_some _ _ _ _ (by simpa [A] using this)
  have hmiss : ∀ i, i < firstN gl nm → exec fuel glBody (A i) = .normal (A i) := fun i hi => by
    have hi' : i < gl.length := Nat.lt_of_lt_of_le hi hfle
    have hc := gl_match (h.toA hi') hn .null i hi'
    rw [beq_eq_false_iff_ne.2 (firstN_before gl nm i hi)] at hc
    unfold glBody
    rw [exec_ite_false hc]
    rfl
  by_cases hlt : firstN gl nm < gl.length
  · -- found in round `firstN gl nm`: `ret` takes the pointer, the counter jumps to the end, one more step and the test fails
    rw [dif_pos hlt]
    have hA := h.toA hlt
    have hhit : exec fuel glBody (A (firstN gl nm)) =
        .normal { mem := m, loc := [.ptr bk 0, .ptr an 0, .ptr (gl[firstN gl nm]).1 0, .int (gl.length : Int)] } := by
      have hc := gl_match hA hn .null _ hlt
      rw [beq_iff_eq.2 (firstN_at gl nm hlt)] at hc
      unfold glBody
      rw [exec_ite_true hc]
      exact gl_take hA fuel _ _ _ hlt hs0
    have hl := search_loop_exit fuel glTest _ glBody A (firstN gl nm) _ _ (fun i hi => htest i (Nat.lt_of_le_of_lt hi hlt))
      (fun i hi => hstep i (Nat.lt_trans hi hlt)) hmiss hhit
      (stepOf_some _ _ _ _ (incdec_i32_var3 m _ _ _ (gl.length : Int) hs1 hsmall))
      (by rw [gl_test h, decide_eq_false (by omega)]) (by omega)
    rw [exec_seq_normal hl]
    exact ⟨[.ptr bk 0, .ptr an 0, .ptr (gl[firstN gl nm]).1 0, .int ((gl.length : Int) + 1)], by simp [mc_exec, mc_eval]⟩
  · -- not found
    rw [dif_neg hlt]
    have heq : firstN gl nm = gl.length := Nat.le_antisymm hfle (Nat.le_of_not_lt hlt)
    have hl := search_loop fuel glTest (.incdec (.var 3) true true .i32) glBody A gl.length gl.length .null (A gl.length) htest
      (by rw [gl_test h, decide_eq_false (Int.lt_irrefl _)]) hstep (heq ▸ hmiss) (Nat.le_refl _) (fun hh => absurd hh (Nat.lt_irrefl _)) (by omega)
    rw [if_neg (Nat.lt_irrefl _)] at hl
    rw [exec_seq_normal hl]
    exact ⟨(A gl.length).loc, by simp [mc_exec, mc_eval, A]⟩

/-! ## `setGroupList` (lib/helpers.c) -/

/-- what the steps of the merge keep of the destination object: it stays writable, and every member other than `groups` (word 13) and
    `group_count` (word 14) is as in `kb0` -/
def KfKeep (kb0 blk : Block) : Prop :=
  blk.writable = true ∧ blk.cells = kb0.cells ∧ blk.slots.length = kb0.slots.length ∧ ∀ i, i ≠ 13 → i ≠ 14 → blk.slots[i]? = kb0.slots[i]?

theorem KfKeep.refl {kb : Block} (h : kb.writable = true) : KfKeep kb kb := ⟨h, rfl, rfl, fun _ _ _ => rfl⟩

theorem KfKeep.trans {a b c : Block} (h1 : KfKeep a b) (h2 : KfKeep b c) : KfKeep a c :=
  ⟨h2.1, h2.2.1.trans h1.2.1, h2.2.2.1.trans h1.2.2.1, fun i h13 h14 => (h2.2.2.2 i h13 h14).trans (h1.2.2.2 i h13 h14)⟩

theorem KfKeep.same {m m' : Mem} {bk : Nat} (hw : ∀ blk, m[bk]? = some blk → blk.writable = true) (he : m'[bk]? = m[bk]?) :
    ∀ kb blk, m[bk]? = some kb → m'[bk]? = some blk → KfKeep kb blk := by
  intro kb blk hk hb
  rw [he, hk] at hb; injection hb with hb; subst hb
  exact KfKeep.refl (hw kb hk)

def sgCount1 : Expr := .bin .add (.load (.slot (.load (.var 0) .ptr) 14) .i32) (.lit 1 .i32) .i32
def sgRealloc : Expr := .call "realloc_words" (.cons (.load (.slot (.load (.var 0) .ptr) 13) .ptr) (.cons (.bin .mul (.cast .u64 sgCount1) (.lit 1 .u64) .u64) .nil))
def sgIdx : Expr := .bin .sub (.load (.slot (.load (.var 0) .ptr) 14) .i32) (.lit 1 .i32) .i32
def sgLast : Expr := .sidx (.load (.slot (.load (.var 0) .ptr) 13) .ptr) sgIdx 1
def sgGrow : Stmt := .seq (.expr (.assign (.slot (.sidx (.load (.slot (.load (.var 0) .ptr) 13) .ptr) (.load (.slot (.load (.var 0) .ptr) 14) .i32) 1) 0) .null .ptr))
  (.seq (.expr (.assign (.slot sgLast 0) (.call "strdup" (.cons (.load (.var 1) .ptr) .nil)) .ptr))
    (.expr (.assign (.var 2) (.load (.slot sgLast 0) .ptr) .ptr)))

theorem setGroupList_shape : LeafFns.setGroupList.body =
    .seq (.inl (some (.var 2)) .ptr (.cons (.load (.var 0) .ptr) (.cons (.load (.var 1) .ptr) .nil)) 4 LeafFns.getFromGroupList.body)
      (.seq (.ite (.bin .ne (.load (.var 2) .ptr) .null .i32) (.ret (some (.load (.var 2) .ptr))) .skip)
        (.seq (.expr (.incdec (.slot (.load (.var 0) .ptr) 14) true true .i32))
          (.seq (.expr (.assign (.slot (.load (.var 0) .ptr) 13) sgRealloc .ptr))
            (.seq (.ite (.bin .eq (.load (.slot (.load (.var 0) .ptr) 13) .ptr) .null .i32)
                (.expr (.incdec (.slot (.load (.var 0) .ptr) 14) false true .i32)) sgGrow)
              (.ret (some (.load (.var 2) .ptr))))))) := rfl

/-- `ret = getFromGroupList(kf, name)` -/
theorem sg_lookup (m : Mem) (bk bl an : Nat) (gl : List (Nat × List UInt8)) (nm : List UInt8) (h : GlMem m bk bl gl)
    (hn : m.cstr an 0 = .ok nm) (hsmall : (gl.length : Int) + 1 < 2147483648) (fuel : Nat) (hf : gl.length + 1 < fuel) :
    exec fuel (.inl (some (.var 2)) .ptr (.cons (.load (.var 0) .ptr) (.cons (.load (.var 1) .ptr) .nil)) 4 LeafFns.getFromGroupList.body)
        { mem := m, loc := [.ptr bk 0, .ptr an 0, .undef] } =
      .normal { mem := m, loc := [.ptr bk 0, .ptr an 0, if hlt : firstN gl nm < gl.length then .ptr (gl[firstN gl nm]).1 0 else .null] } := by
  obtain ⟨loc1, hg⟩ := getFromGroupList_exec m bk bl an gl nm h hn hsmall fuel hf
  have ha : evalArgs (.cons (.load (.var 0) .ptr) (.cons (.load (.var 1) .ptr) .nil)) { mem := m, loc := [.ptr bk 0, .ptr an 0, .undef] } =
      .ok ([.ptr bk 0, .ptr an 0], { mem := m, loc := [.ptr bk 0, .ptr an 0, .undef] }) := by
    simp [mc_eval]
  by_cases hlt : firstN gl nm < gl.length
  · rw [dif_pos hlt] at hg ⊢
    exact exec_inl_val (fuel := fuel) (nl := 4) (i := 2) (dty := .ptr) ha (by simpa using hg) rfl (by simp)
  · rw [dif_neg hlt] at hg ⊢
    exact exec_inl_val (fuel := fuel) (nl := 4) (i := 2) (dty := .ptr) ha (by simpa using hg) rfl (by simp)

/-- `setGroupList`, the name is already in the list: its element is returned, nothing changes -/
theorem setGroupList_found (m : Mem) (bk bl an : Nat) (gl : List (Nat × List UInt8)) (nm : List UInt8) (h : GlMem m bk bl gl)
    (hn : m.cstr an 0 = .ok nm) (hsmall : (gl.length : Int) + 1 < 2147483648) (fuel : Nat) (hf : gl.length + 1 < fuel)
    (hlt : firstN gl nm < gl.length) :
    ∃ loc', exec fuel LeafFns.setGroupList.body { mem := m, loc := [.ptr bk 0, .ptr an 0, .undef] } =
      .ret (.ptr (gl[firstN gl nm]).1 0) { mem := m, loc := loc' } := by
  rw [setGroupList_shape, exec_seq_normal (sg_lookup m bk bl an gl nm h hn hsmall fuel hf), dif_pos hlt]
  refine ⟨[.ptr bk 0, .ptr an 0, .ptr (gl[firstN gl nm]).1 0], exec_seq_ret ?_⟩
  rw [exec_ite_true (st' := ⟨m, [.ptr bk 0, .ptr an 0, .ptr (gl[firstN gl nm]).1 0]⟩) (by simp [mc_eval, testOf, binop, boolVal, truth])]
  simp [mc_exec, mc_eval]

/-- `&kf->groups[I]`: a pointer to word `i` of the array -/
theorem sg_elem (mm : Mem) (loc : List Val) (bk L i : Nat) (kb gb : Block) (I : Expr) (hl0 : loc[0]? = some (.ptr bk 0))
    (hk : mm[bk]? = some kb) (hlive : kb.live = true) (h13 : kb.slots[13]? = some (.ptr L 0))
    (hL : mm[L]? = some gb) (hgl : gb.live = true) (hi : i ≤ gb.slots.length)
    (hI : evalE I { mem := mm, loc := loc } = .ok (.int (i : Int), { mem := mm, loc := loc })) :
    evalE (.sidx (.load (.slot (.load (.var 0) .ptr) 13) .ptr) I 1) { mem := mm, loc := loc } = .ok (.ptr L (i : Int), { mem := mm, loc := loc }) :=
  evalE_sidx_of _ _ _ _ L 0 (i : Int) 1 _ (kf_slot mm loc bk 13 kb _ .ptr hl0 hk hlive h13 (by simp)) hI (by simpa using slotAdd_of i hL hgl hi)

/-- the else branch of `setGroupList`: the terminator, the copy of the name, the result -/
theorem sg_grow (fuel : Nat) (mm : Mem) (loc : List Val) (bk an L n : Nat) (kb : Block) (gs : List Val) (nm : List UInt8)
    (hl0 : loc[0]? = some (.ptr bk 0)) (hl1 : loc[1]? = some (.ptr an 0)) (hl2 : 2 < loc.length)
    (hk : mm[bk]? = some kb) (hlive : kb.live = true) (h13 : kb.slots[13]? = some (.ptr L 0)) (h14 : kb.slots[14]? = some (.int ((n : Int) + 1)))
    (hL : mm[L]? = some { cells := [], slots := gs }) (hgs : gs.length = n + 2) (hbkL : bk ≠ L) (han : an ≠ L)
    (hn : mm.cstr an 0 = .ok nm) (hsmall : (n : Int) + 1 < 2147483648) :
    ∃ mm', exec fuel sgGrow { mem := mm, loc := loc } = .normal { mem := mm', loc := loc.set 2 (.ptr mm.length 0) } ∧
      mm'[L]? = some { cells := [], slots := (gs.set (n + 1) .null).set n (.ptr mm.length 0) } ∧
      mm'.cstr mm.length 0 = .ok nm ∧ mm'.length = mm.length + 1 ∧ SameBut L mm mm' := by
  have hLlt : L < mm.length := (List.getElem?_eq_some_iff.1 hL).1
  have hbklt : bk < mm.length := (List.getElem?_eq_some_iff.1 hk).1
  have e1 : ((n + 1 : Nat) : Int) = (n : Int) + 1 := by omega
  have hcnt : ∀ m' : Mem, m'[bk]? = some kb → evalE (.load (.slot (.load (.var 0) .ptr) 14) .i32) { mem := m', loc := loc } =
      .ok (.int ((n : Int) + 1), { mem := m', loc := loc }) := fun m' h => kf_slot m' loc bk 14 kb _ .i32 hl0 h hlive h14 (by simp)
  have hlast : ∀ (m' : Mem) (gb : Block), m'[bk]? = some kb → m'[L]? = some gb → gb.live = true → n ≤ gb.slots.length →
      evalE sgLast { mem := m', loc := loc } = .ok (.ptr L (n : Int), { mem := m', loc := loc }) := fun m' gb h hb hbl hlen => by
    have := evalE_addsub_i32 { mem := m', loc := loc } _ (.lit 1 .i32) ((n : Int) + 1) 1 true (hcnt m' h) rfl (by simp <;> omega) (by simp <;> omega)
    exact sg_elem m' loc bk L n kb gb _ hl0 h hlive h13 hb hbl hlen (by simpa [sgIdx] using this)
  -- groups[count] = NULL
  obtain ⟨m4, hm4⟩ : ∃ m4 : Mem, m4 = mm.set L { cells := [], slots := gs.set (n + 1) .null } := ⟨_, rfl⟩
  have hm4k : m4[bk]? = some kb := by rw [hm4, set_other hbkL]; exact hk
  have hm4L : m4[L]? = some { cells := [], slots := gs.set (n + 1) .null } := by simp [hm4, hLlt]
  have hm4len : m4.length = mm.length := by simp [hm4]
  have hn4 : m4.cstr an 0 = .ok nm := by rw [hm4, cstr_congr (set_other han)]; exact hn
  -- groups[count - 1] = strdup(name)
  have hl6 : evalL (.slot sgLast 0) { mem := m4, loc := loc } = .ok (.slot L (n : Int), { mem := m4, loc := loc }) := by
    simp [mc_eval, hlast m4 _ hm4k hm4L rfl (by simp [hgs])]
  obtain ⟨m6, hS6, hm6len, hm6L, hm6new, hm6fr⟩ := exec_strdup_word (fuel := fuel) hl6 (evalE_var (ty := .ptr) hl1 (by simp)) hn4 hm4L (by simp [hgs])
  simp only [hm4len] at hS6 hm6len hm6L hm6new hm6fr
  have hm6k : m6[bk]? = some kb := by rw [hm6fr bk hbklt hbkL]; exact hm4k
  -- ret = groups[count - 1]
  have hld : m6.loadSlot L (n : Int) = .ok (.ptr mm.length 0) := loadSlot_of hm6L rfl (by simp [hgs]) (by simp)
  refine ⟨m6, ?_, hm6L, hm6new, hm6len, hm6len ▸ Nat.le_succ _, fun b hb hne => ?_⟩
  · unfold sgGrow
    refine exec_seq_step (st' := ⟨m4, loc⟩) ?_ (exec_seq_step hS6 ?_)
    · rw [hm4]
      exact exec_assign_member fuel (n + 1) (st1 := ⟨mm, loc⟩)
        (sg_elem mm loc bk L (n + 1) kb _ _ hl0 hk hlive h13 hL rfl (by simp [hgs]) (e1 ▸ hcnt mm hk)) rfl rfl hL rfl rfl (by simp) (by simp [hgs])
    · exact exec_assign_var (t := 2) (ty := .ptr) (evalE_load_slot _ 0 .ptr _ L n _ (hlast m6 _ hm6k hm6L rfl (by simp [hgs]))
        (by simpa using hld)) rfl hl2
  · rw [hm6fr b hb hne, hm4, set_other hne]

/-- `realloc(kf->groups, …)` to two words more than the list has names, in a memory `m1` that differs from `m` in the object's block
    only: a new block with the old elements in front; the old array, if there was one, is released (`realloc(NULL, …)` allocates) -/
theorem GlMem.realloc {m m1 : Mem} {bk bl : Nat} {gl : List (Nat × List UInt8)} (h : GlMem m bk bl gl) (hne : gl ≠ [] → bk ≠ bl)
    (hlen : m1.length = m.length) (hfr : ∀ b, b ≠ bk → m1[b]? = m[b]?) :
    ∃ v13 gs m2, (∀ kb, m[bk]? = some kb → kb.slots[13]? = some v13) ∧ v13 ≠ .undef ∧
      builtin "realloc_words" [v13, .int ((gl.length : Int) + 2)] m1 = .ok (.ptr m.length 0, m2) ∧ m2.length = m.length + 1 ∧
      m2[bk]? = m1[bk]? ∧ m2[m.length]? = some { cells := [], slots := gs } ∧ gs.length = gl.length + 2 ∧
      (∀ i (hi : i < gl.length), gs[i]? = some (.ptr (gl[i]).1 0)) ∧ (∀ b, b < m.length → b ≠ bk → b ≠ bl → m2[b]? = m[b]?) := by
  have hbk : bk < m1.length := hlen ▸ h.bk_lt
  rcases h with hA | ⟨hg, hb, nblk, n1, n2, n3, n4⟩
  · -- there is an array: it moves
    have hne' : bk ≠ bl := hA.ne hne
    obtain ⟨kblk, k1, _, k3, _⟩ := hA.kf
    obtain ⟨gblk, g1, g2, g3, g4⟩ := hA.arr
    have hm1l : m1[bl]? = some gblk := by rw [hfr bl (Ne.symm hne')]; exact g1
    refine ⟨.ptr bl 0, gblk.slots ++ [.undef], m1.set bl { gblk with live := false } ++ [{ cells := [], slots := gblk.slots ++ [.undef] }],
      fun kb hk => by rw [k1] at hk; injection hk with hk; rw [← hk]; exact k3, by simp, ?_, by simp [hlen], ?_, ?_, by simp [g3],
      fun i hi => ?_, fun b hb hbk' hbl' => ?_⟩
    · have := realloc_words_spec m1 bl gblk (gl.length + 2) hm1l g2
      have e1 : gblk.slots.take (gl.length + 2) = gblk.slots := List.take_of_length_le (by rw [g3]; exact Nat.le_succ _)
      have e2 : (gl.length + 2) - gblk.slots.length = 1 := by rw [g3, Nat.add_sub_add_left]
      have e4 : (((gl.length + 2 : Nat)) : Int) = (gl.length : Int) + 2 := Int.natCast_add _ _
      simp only [e1, e2, e4, List.replicate_one, hlen] at this
      exact this
    · rw [List.getElem?_append_left (by simpa using hbk), set_other hne']
    · rw [List.getElem?_append_right (by simp [hlen])]; simp [hlen]
    · rw [List.getElem?_append_left (by rw [g3]; omega)]; exact (g4 i hi).1
    · rw [List.getElem?_append_left (by simpa [hlen] using hb), set_other hbl', hfr b hbk']
  · -- `groups == NULL`: `realloc` makes the first array
    subst hg
    refine ⟨.null, [.undef, .undef], m1 ++ [{ cells := [], slots := [.undef, .undef] }],
      fun kb hk => by rw [n1] at hk; injection hk with hk; rw [← hk]; exact n3, by simp, ?_, by simp [hlen], ?_, ?_, rfl,
      fun i hi => by simp at hi, fun b hb hbk' _ => ?_⟩
    · simp [builtin_realloc_words_null, Mem.allocWords, hlen, List.replicate]
    · rw [List.getElem?_append_left hbk]
    · rw [List.getElem?_append_right (by simp [hlen])]; simp [hlen]
    · rw [List.getElem?_append_left (by simpa [hlen] using hb), hfr b hbk']

/-- `realloc(kf->groups, (kf->group_count + 1) * sizeof (char *))` -/
theorem sg_realloc_eval (mm m2 : Mem) (loc : List Val) (bk : Nat) (kb : Block) (c : Int) (v13 r : Val) (hl0 : loc[0]? = some (.ptr bk 0))
    (hk : mm[bk]? = some kb) (hlive : kb.live = true) (h13 : kb.slots[13]? = some v13) (hv13 : v13 ≠ .undef) (h14 : kb.slots[14]? = some (.int c))
    (hc0 : 0 ≤ c) (hc : c + 1 < 2147483648) (hre : builtin "realloc_words" [v13, .int (c + 1)] mm = .ok (r, m2)) :
    evalE sgRealloc { mem := mm, loc := loc } = .ok (r, { mem := m2, loc := loc }) := by
  have hc1 : evalE sgCount1 { mem := mm, loc := loc } = .ok (.int (c + 1), { mem := mm, loc := loc }) := by
    have := evalE_addsub_i32 { mem := mm, loc := loc } _ (.lit 1 .i32) c 1 false (kf_slot mm loc bk 14 kb _ .i32 hl0 hk hlive h14 (by simp)) rfl
      (by simp <;> omega) (by simp <;> omega)
    simpa [sgCount1] using this
  have hw : wrapTo .u64 (c + 1) = c + 1 := wrapTo_u64_small _ (by omega) (by omega)
  have hl13 : mm.loadSlot bk 13 = .ok v13 := by simpa using loadSlot_of (i := 13) hk hlive h13 hv13
  simp [mc_eval, sgRealloc, hl0, hl13, hc1, binop, cmpInt, arith_u64, convert, hw, hre]

/-- `kf->group_count++` -/
theorem sg_incr (fuel : Nat) (mm : Mem) (loc : List Val) (bk : Nat) (kb : Block) (n : Int) (hl0 : loc[0]? = some (.ptr bk 0))
    (hk : mm[bk]? = some kb) (hlive : kb.live = true) (hw : kb.writable = true) (h14 : 14 < kb.slots.length)
    (hc : mm.loadSlot bk 14 = .ok (.int n)) (h1 : -2147483648 ≤ n + 1) (h2 : n + 1 < 2147483648) :
    exec fuel (.expr (.incdec (.slot (.load (.var 0) .ptr) 14) true true .i32)) { mem := mm, loc := loc } =
      .normal { mem := mm.set bk { kb with slots := kb.slots.set 14 (.int (n + 1)) }, loc := loc } :=
  exec_expr_ok (incdec_i32_slot mm _ loc (.load (.var 0) .ptr) bk 14 n true (evalE_var (ty := .ptr) hl0 (by simp)) hc h1 h2
    (storeSlot_of _ hk hlive hw h14))

/-- `setGroupList`, a new name: the counter goes up, the array is reallocated with one more element (allocated, if the object had
    none: `realloc(NULL, …)`), the NULL terminator and a fresh copy of the name are written; the caller's object then lists the old
    names and the new one, in an array.  `group_count + 2 < 2^31` (`int`) is for `group_count++` followed by `group_count + 1` in the
    size given to `realloc`. -/
theorem setGroupList_new (m : Mem) (bk bl an : Nat) (gl : List (Nat × List UInt8)) (nm : List UInt8) (h : GlMem m bk bl gl)
    (hn : m.cstr an 0 = .ok nm) (hkw : ∀ blk, m[bk]? = some blk → blk.writable = true) (hne : gl ≠ [] → bk ≠ bl)
    (hd : ∀ e, e ∈ gl → e.1 ≠ bk ∧ e.1 ≠ bl) (han : an ≠ bk ∧ an ≠ bl)
    (hsmall : (gl.length : Int) + 2 < 2147483648) (fuel : Nat) (hf : gl.length + 1 < fuel)
    (hnew : ¬ firstN gl nm < gl.length) :
    ∃ m' loc', exec fuel LeafFns.setGroupList.body { mem := m, loc := [.ptr bk 0, .ptr an 0, .undef] } =
        .ret (.ptr (m.length + 1) 0) { mem := m', loc := loc' } ∧
      GlMemA m' bk m.length (gl ++ [(m.length + 1, nm)]) ∧ m'.length = m.length + 2 ∧
      (∀ b, b < m.length → b ≠ bk → b ≠ bl → m'[b]? = m[b]?) ∧
      (∀ kb kb', m[bk]? = some kb → m'[bk]? = some kb' → kb'.live = true ∧ kb'.writable = true ∧ kb'.cells = kb.cells ∧ kb'.slots.length = kb.slots.length ∧
        ∀ i, i ≠ 13 → i ≠ 14 → kb'.slots[i]? = kb.slots[i]?) := by
  obtain ⟨kblk, k1, k2, k4, _⟩ := h.obj
  have kw := hkw kblk k1
  have hbk : bk < m.length := h.bk_lt
  have h14 : 14 < kblk.slots.length := (List.getElem?_eq_some_iff.1 k4).1
  have h13 : 13 < kblk.slots.length := Nat.lt_of_succ_lt h14
  have hanlt : an < m.length := cstr_lt hn
  have hs1 : (gl.length : Int) + 1 < 2147483648 := by omega
  have hr1 : -2147483648 ≤ (gl.length : Int) + 1 := by omega
  obtain ⟨loc, hloc⟩ : ∃ loc : List Val, loc = [.ptr bk 0, .ptr an 0, .null] := ⟨_, rfl⟩
  have hl0 : loc[0]? = some (.ptr bk 0) := hloc ▸ rfl
  have hl1 : loc[1]? = some (.ptr an 0) := hloc ▸ rfl
  have hl2 : loc[2]? = some .null := hloc ▸ rfl
  have hl2' : 2 < loc.length := by simp [hloc]
  -- the object with its counter raised (`kb1`), the array with one more element (`m2`), the object pointing at it (`kb3`, `m3`)
  obtain ⟨kb1, hkb1⟩ : ∃ kb1 : Block, kb1 = { kblk with slots := kblk.slots.set 14 (.int ((gl.length : Int) + 1)) } := ⟨_, rfl⟩
  obtain ⟨v13, gs, m2, hv13, hv13u, hre, hm2len, hm2k, hm2L, hgslen, hgs, hm2fr⟩ :=
    h.realloc hne (m1 := m.set bk kb1) (by simp) (fun b hb => set_other hb)
  have hm1k : (m.set bk kb1)[bk]? = some kb1 := by simp [hbk]
  rw [hm1k] at hm2k
  have hkb1_13 : kb1.slots[13]? = some v13 := by rw [hkb1]; simp [hv13 kblk k1]
  have hkb1_14 : kb1.slots[14]? = some (.int ((gl.length : Int) + 1)) := by rw [hkb1]; simp [h14]
  have hkb1l : kb1.live = true := by rw [hkb1]; exact k2
  have hkb1w : kb1.writable = true := by rw [hkb1]; exact kw
  obtain ⟨kb3, hkb3⟩ : ∃ kb3 : Block, kb3 = { kb1 with slots := kb1.slots.set 13 (.ptr m.length 0) } := ⟨_, rfl⟩
  obtain ⟨m3, hm3⟩ : ∃ m3 : Mem, m3 = m2.set bk kb3 := ⟨_, rfl⟩
  have hbkL : bk ≠ m.length := Nat.ne_of_lt hbk
  have hm3k : m3[bk]? = some kb3 := by simp [hm3, show bk < m2.length from hm2len ▸ Nat.lt_succ_of_lt hbk]
  have hm3L : m3[m.length]? = some { cells := [], slots := gs } := by rw [hm3, set_other (Ne.symm hbkL)]; exact hm2L
  have hkb3_13 : kb3.slots[13]? = some (.ptr m.length 0) := by rw [hkb3]; exact List.getElem?_set_self (by rw [hkb1]; simpa using h13)
  have hkb3_14 : kb3.slots[14]? = some (.int ((gl.length : Int) + 1)) := by rw [hkb3]; simp [hkb1_14]
  have hkb3l : kb3.live = true := by rw [hkb3]; exact hkb1l
  have hn3 : m3.cstr an 0 = .ok nm := by
    rw [hm3, cstr_congr (set_other han.1), cstr_congr (hm2fr an hanlt han.1 han.2)]; exact hn
  -- the terminator and the copy of the name (`m'`)
  obtain ⟨m', hgrow, hm'L, hm'new, hm'len, K⟩ := sg_grow fuel m3 loc bk an m.length gl.length kb3 gs nm
    hl0 hl1 hl2' hm3k hkb3l hkb3_13 hkb3_14 hm3L hgslen hbkL (Nat.ne_of_lt hanlt) hn3 hs1
  have hm3len : m3.length = m.length + 1 := by simp [hm3, hm2len]
  rw [hm3len] at hgrow hm'L hm'new hm'len
  have hm'k : m'[bk]? = some kb3 := by rw [K.2 bk (hm3len ▸ Nat.lt_succ_of_lt hbk) hbkL]; exact hm3k
  have hfr : ∀ b, b < m.length → b ≠ bk → b ≠ bl → m'[b]? = m[b]? := fun b hb h1 h2 => by
    rw [K.2 b (hm3len ▸ Nat.lt_succ_of_lt hb) (Nat.ne_of_lt hb), hm3, set_other h1, hm2fr b hb h1 h2]
  refine ⟨m', loc.set 2 (.ptr (m.length + 1) 0), ?_, ⟨⟨_, hm'k, hkb3l, hkb3_13, by simp [hkb3_14]⟩, ⟨_, hm'L, rfl, by simp [hgslen], fun i hi => ?_⟩⟩,
    hm'len, hfr, ?_⟩
  · -- the run: nothing found, `group_count++`, `realloc`, the else branch, `return ret`
    rw [setGroupList_shape, exec_seq_normal (sg_lookup m bk bl an gl nm h hn hs1 fuel hf), dif_neg hnew, ← hloc]
    refine exec_seq_step (exec_ite_skip (st' := ⟨m, loc⟩) (by simp [mc_eval, testOf, hl2, binop, boolVal, truth])) ?_
    refine exec_seq_step (sg_incr fuel m loc bk kblk _ hl0 k1 k2 kw h14 h.count hr1 hs1) ?_
    refine exec_seq_step (st' := ⟨m3, loc⟩) ?_ ?_
    · rw [hm3, hkb3, ← hkb1]
      exact exec_assign_member fuel 13 (evalE_var (ty := .ptr) hl0 (by simp))
        (sg_realloc_eval _ m2 _ bk kb1 _ v13 _ hl0 hm1k hkb1l hkb1_13 hv13u hkb1_14 (Int.add_nonneg (Int.natCast_nonneg _) (by decide))
          (by rw [Int.add_assoc]; exact hsmall) (by rw [Int.add_assoc]; exact hre))
        rfl hm2k hkb1l hkb1w (Int.zero_add _) (by rw [hkb1]; simpa using h13)
    refine exec_seq_step (st' := ⟨m', loc.set 2 (.ptr (m.length + 1) 0)⟩) ?_ ?_
    · have hl13 : m3.loadSlot bk 13 = .ok (.ptr m.length 0) := by simpa using loadSlot_of (i := 13) hm3k hkb3l hkb3_13 (by simp)
      rw [exec_ite_false (st' := ⟨m3, loc⟩) (by simp [mc_eval, testOf, hl0, hl13, binop, boolVal, truth])]
      exact hgrow
    rw [exec_ret_some, evalE_var (ty := .ptr) (List.getElem?_set_self hl2') (by simp)]
  · -- the object lists the old names and the new one
    by_cases hin : i < gl.length
    · have hmem := hd (gl[i]) (List.getElem_mem hin)
      have e2 := h.str i hin
      simp only [List.getElem_append_left hin]
      refine ⟨?_, by rw [cstr_congr (hfr _ (cstr_lt e2) hmem.1 hmem.2)]; exact e2⟩
      rw [List.getElem?_set_ne (Nat.ne_of_gt hin), List.getElem?_set_ne (Nat.ne_of_gt (Nat.lt_succ_of_lt hin))]
      exact hgs i hin
    · have hin' : i = gl.length := Nat.le_antisymm (Nat.le_of_lt_succ (by simpa using hi)) (Nat.le_of_not_lt hin)
      subst hin'
      have hx : (gl ++ [(m.length + 1, nm)])[gl.length]'hi = (m.length + 1, nm) := by simp
      rw [hx]
      exact ⟨by simp [hgslen], hm'new⟩
  · intro kb kb' hkb hkb'
    rw [k1] at hkb; injection hkb with hkb; subst hkb
    rw [hm'k] at hkb'; injection hkb' with hkb'; subst hkb'
    refine ⟨hkb3l, by rw [hkb3]; exact hkb1w, by rw [hkb3, hkb1], by rw [hkb3, hkb1]; simp, fun i h13' h14' => ?_⟩
    rw [hkb3, hkb1]
    show ((kblk.slots.set 14 _).set 13 _)[i]? = _
    rw [List.getElem?_set_ne (Ne.symm h13'), List.getElem?_set_ne (Ne.symm h14')]

/-- `setGroupList` as its callers see it: the object's group list becomes `addGroup`, the result is the list's element for
    the name, every block of the old memory other than the struct and the old array is as before, nothing shrinks -/
theorem setGroupList_spec (m : Mem) (bk bl an : Nat) (gl : List (Nat × List UInt8)) (nm : List UInt8) (h : GlMem m bk bl gl)
    (hn : m.cstr an 0 = .ok nm) (hkw : ∀ blk, m[bk]? = some blk → blk.writable = true) (hne : gl ≠ [] → bk ≠ bl)
    (hd : ∀ e, e ∈ gl → e.1 ≠ bk ∧ e.1 ≠ bl) (han : an ≠ bk ∧ an ≠ bl)
    (hsmall : (gl.length : Int) + 2 < 2147483648) (fuel : Nat) (hf : gl.length + 1 < fuel) :
    ∃ m' loc' b' bl' gl', exec fuel LeafFns.setGroupList.body { mem := m, loc := [.ptr bk 0, .ptr an 0, .undef] } =
        .ret (.ptr b' 0) { mem := m', loc := loc' } ∧
      GlMem m' bk bl' gl' ∧ gl'.map (·.2) = Econf.addGroup (gl.map (·.2)) nm ∧ (b', nm) ∈ gl' ∧
      m.length ≤ m'.length ∧ (∀ b, b < m.length → b ≠ bk → b ≠ bl → m'[b]? = m[b]?) ∧
      (∀ kb blk, m[bk]? = some kb → m'[bk]? = some blk → KfKeep kb blk) ∧ (gl' ≠ [] → bk ≠ bl') ∧ (∀ e, e ∈ gl' → e.1 ≠ bk ∧ e.1 ≠ bl') ∧ gl'.length ≤ gl.length + 1 ∧
      (bl' = bl ∨ m.length ≤ bl') := by
  have hs1 : (gl.length : Int) + 1 < 2147483648 := by omega
  have hc := firstN_mem gl nm
  by_cases hlt : firstN gl nm < gl.length
  · obtain ⟨loc', he⟩ := setGroupList_found m bk bl an gl nm h hn hs1 fuel hf hlt
    have hmem : nm ∈ gl.map (·.2) := hc.1 hlt
    have hcont : (gl.map (·.2)).contains nm = true := by simpa using hmem
    refine ⟨m, loc', _, bl, gl, he, h, by simp only [Econf.addGroup, hcont, if_true], ?_, Nat.le_refl _, fun _ _ _ _ => rfl, KfKeep.same hkw rfl, hne, hd, Nat.le_succ _, Or.inl rfl⟩
    have hat := firstN_at gl nm hlt
    have hx : gl[firstN gl nm] = ((gl[firstN gl nm]).1, nm) := Prod.ext rfl hat
    have := List.getElem_mem hlt
    rw [hx] at this
    exact this
  · obtain ⟨m', loc', he, hg, hlen, hfr, hkf⟩ := setGroupList_new m bk bl an gl nm h hn hkw hne hd han hsmall fuel hf hlt
    have hmem : ¬ nm ∈ gl.map (·.2) := fun hh => hlt (hc.2 hh)
    have hcont : (gl.map (·.2)).contains nm = false := by simpa using hmem
    obtain ⟨kblk, k1, _⟩ := h.obj
    have hbk : bk < m.length := h.bk_lt
    have hbl : bl < m.length := h.bl_lt
    refine ⟨m', loc', _, _, _, he, hg.toGlMem, by simp only [Econf.addGroup, hcont, Bool.false_eq_true, if_false, List.map_append, List.map_cons, List.map_nil], by simp,
      hlen ▸ Nat.le_add_right _ _, hfr, ?_, fun _ => Nat.ne_of_lt hbk, ?_, by simp, Or.inr (Nat.le_refl _)⟩
    · intro kb blk hk hb
      exact (hkf kb blk hk hb).2
    · intro e he'
      rcases List.mem_append.1 he' with h1 | h1
      · have := hd e h1
        have hlt' : e.1 < m.length := h.str_lt h1
        exact ⟨this.1, Nat.ne_of_lt hlt'⟩
      · simp at h1
        subst h1
        exact ⟨Nat.ne_of_gt (Nat.lt_succ_of_lt hbk), Nat.succ_ne_self _⟩

/-- `setGroupList` (lib/helpers.c) on the translated term: no fault, and afterwards the object's group list is the model's
    `addGroup` of the old one – the name is appended exactly when it was not there, first-appearance order is kept – and the
    pointer returned is the list's element for that name. -/
theorem C_setGroupList (m : Mem) (bk bl an : Nat) (gl : List (Nat × List UInt8)) (nm : List UInt8) (h : GlMem m bk bl gl)
    (hn : m.cstr an 0 = .ok nm) (hkw : ∀ blk, m[bk]? = some blk → blk.writable = true) (hne : gl ≠ [] → bk ≠ bl)
    (hd : ∀ e, e ∈ gl → e.1 ≠ bk ∧ e.1 ≠ bl) (han : an ≠ bk ∧ an ≠ bl)
    (hsmall : (gl.length : Int) + 2 < 2147483648) (fuel : Nat) (hf : gl.length + 1 < fuel) :
    ∃ m' loc' b' bl' gl', exec fuel LeafFns.setGroupList.body { mem := m, loc := [.ptr bk 0, .ptr an 0, .undef] } =
        .ret (.ptr b' 0) { mem := m', loc := loc' } ∧
      GlMem m' bk bl' gl' ∧ gl'.map (·.2) = Econf.addGroup (gl.map (·.2)) nm ∧ (b', nm) ∈ gl' := by
  obtain ⟨m', loc', b', bl', gl', he, hG, hnames, hmem, _⟩ := setGroupList_spec m bk bl an gl nm h hn hkw hne hd han hsmall fuel hf
  exact ⟨m', loc', b', bl', gl', he, hG, hnames, hmem⟩

/-! ## `cpy_file_entry` (lib/helpers.c) -/

/-- an optional string member: NULL, or a pointer to a C string -/
inductive OptStr (m : Mem) : Val → Option (List UInt8) → Prop where
  | none : OptStr m .null none
  | some (b : Nat) (s : List UInt8) (h : m.cstr b 0 = .ok s) : OptStr m (.ptr b 0) (some s)

theorem OptStr.mono {m m' : Mem} {v : Val} {s : Option (List UInt8)} (h : OptStr m v s)
    (hm : ∀ b, v = .ptr b 0 → m'[b]? = m[b]?) : OptStr m' v s := by
  cases h with
  | none => exact .none
  | some b str hc => exact .some b str (by rw [cstr_congr (hm b rfl)]; exact hc)

theorem OptStr.ne_undef {m : Mem} {v : Val} {s : Option (List UInt8)} (h : OptStr m v s) : v ≠ .undef := by
  cases h <;> simp

/-- one `struct file_entry` at word `os` of block `bs`, holding the entry `e`; none of the blocks it uses is in `avoid`.  Words
    `os … os + 5` are `group`, `key`, `value`, `comment_before_key`, `comment_after_value`, `line_number` (7 words per entry, the last
    is `quotes`), in the order of `LeafFns.records`. -/
structure EntMem (m : Mem) (bs os : Nat) (e : Econf.Entry) (avoid : List Nat) : Prop where
  self : bs ∉ avoid
  grp : ∃ b, m.loadSlot bs (os : Int) = .ok (.ptr b 0) ∧ m.cstr b 0 = .ok e.group ∧ b ∉ avoid
  key : ∃ b, m.loadSlot bs ((os : Int) + 1) = .ok (.ptr b 0) ∧ m.cstr b 0 = .ok e.key ∧ b ∉ avoid
  val : ∃ v, m.loadSlot bs ((os : Int) + 2) = .ok v ∧ OptStr m v e.value ∧ ∀ b, v = .ptr b 0 → b ∉ avoid
  cb : ∃ v, m.loadSlot bs ((os : Int) + 3) = .ok v ∧ OptStr m v e.cb ∧ ∀ b, v = .ptr b 0 → b ∉ avoid
  ca : ∃ v, m.loadSlot bs ((os : Int) + 4) = .ok v ∧ OptStr m v e.ca ∧ ∀ b, v = .ptr b 0 → b ∉ avoid
  line : m.loadSlot bs ((os : Int) + 5) = .ok (.int (e.line : Int))

theorem cstr_lt' {m : Mem} {b : Nat} {s : List UInt8} (h : m.cstr b 0 = .ok s) : b < m.length := cstr_lt h

theorem OptStr.lt {m : Mem} {v : Val} {s : Option (List UInt8)} (h : OptStr m v s) : ∀ b, v = .ptr b 0 → b < m.length := by
  intro b hv
  cases h with
  | none => cases hv
  | some b' str hc => cases hv; exact cstr_lt hc

/-- an entry described in an old memory `m0` is still there in `m`, with another avoid list, when `m` agrees with `m0` on the
    blocks that were not to be avoided and those are not in the new avoid list -/
theorem EntMem.transfer {m0 m : Mem} {bs os : Nat} {e : Econf.Entry} {av0 av : List Nat} (h : EntMem m0 bs os e av0)
    (hm : ∀ b, b < m0.length → b ∉ av0 → m[b]? = m0[b]?) (hav : ∀ b, b < m0.length → b ∉ av0 → b ∉ av) : EntMem m bs os e av := by
  obtain ⟨bg, g1, g2, g3⟩ := h.grp
  obtain ⟨bq, k1, k2, k3⟩ := h.key
  obtain ⟨v, v1, v2, v3⟩ := h.val
  obtain ⟨vb, b1, b2, b3⟩ := h.cb
  obtain ⟨va, a1, a2, a3⟩ := h.ca
  have hbs := loadSlot_lt g1
  have hs := hm bs hbs h.self
  refine ⟨hav bs hbs h.self, ⟨bg, by rw [loadSlot_congr hs]; exact g1, by rw [cstr_congr (hm bg (cstr_lt g2) g3)]; exact g2, hav bg (cstr_lt g2) g3⟩,
    ⟨bq, by rw [loadSlot_congr hs]; exact k1, by rw [cstr_congr (hm bq (cstr_lt k2) k3)]; exact k2, hav bq (cstr_lt k2) k3⟩,
    ⟨v, by rw [loadSlot_congr hs]; exact v1, v2.mono (fun b hb => hm b (v2.lt b hb) (v3 b hb)), fun b hb => hav b (v2.lt b hb) (v3 b hb)⟩,
    ⟨vb, by rw [loadSlot_congr hs]; exact b1, b2.mono (fun b hb => hm b (b2.lt b hb) (b3 b hb)), fun b hb => hav b (b2.lt b hb) (b3 b hb)⟩,
    ⟨va, by rw [loadSlot_congr hs]; exact a1, a2.mono (fun b hb => hm b (a2.lt b hb) (a3 b hb)), fun b hb => hav b (a2.lt b hb) (a3 b hb)⟩,
    by rw [loadSlot_congr hs]; exact h.line⟩

theorem EntMem.mono {m m' : Mem} {bs os : Nat} {e : Econf.Entry} {avoid : List Nat} (h : EntMem m bs os e avoid)
    (hm : ∀ b, b < m.length → b ∉ avoid → m'[b]? = m[b]?) : EntMem m' bs os e avoid :=
  h.transfer hm (fun _ _ h => h)

theorem OptStr.same {L : Nat} {m m' : Mem} {v : Val} {s : Option (List UInt8)} (h : OptStr m v s) (K : SameBut L m m')
    (hne : ∀ b, v = .ptr b 0 → b ≠ L) : OptStr m' v s :=
  h.mono (fun b hb => K.2 b (h.lt b hb) (hne b hb))

theorem EntMem.same {L : Nat} {m m' : Mem} {bs os : Nat} {e : Econf.Entry} {avoid : List Nat} (h : EntMem m bs os e avoid)
    (K : SameBut L m m') (hL : L ∈ avoid) : EntMem m' bs os e avoid :=
  h.mono (fun b hb hav => K.2 b hb (fun hbL => hav (hbL ▸ hL)))

def cpOpt (k : Nat) : Stmt := .ite (.load (.slot (.load (.var 1) .ptr) k) .ptr)
  (.expr (.assign (.slot (.load (.var 2) .ptr) k) (.call "strdup" (.cons (.load (.slot (.load (.var 1) .ptr) k) .ptr) .nil)) .ptr))
  (.expr (.assign (.slot (.load (.var 2) .ptr) k) .null .ptr))

/-- `copy.member = E` for member number `k` of the struct copy in block `L` (variable 2 points at it) -/
theorem cp_assign (fuel : Nat) (E : Expr) (ty : Ty) (mm m1 : Mem) (loc : List Val) (L k : Nat) (sl : List Val) (v0 v : Val)
    (hl2 : loc[2]? = some (.ptr L 0)) (hE : evalE E { mem := mm, loc := loc } = .ok (v0, { mem := m1, loc := loc }))
    (hc : convert ty v0 = .ok v) (hL : m1[L]? = some { cells := [], slots := sl }) (hk : k < sl.length) :
    ∃ mm', exec fuel (.expr (.assign (.slot (.load (.var 2) .ptr) k) E ty)) { mem := mm, loc := loc } = .normal { mem := mm', loc := loc } ∧
      mm'[L]? = some { cells := [], slots := sl.set k v } ∧ SameBut L m1 mm' :=
  ⟨_, exec_assign_member fuel k (evalE_var (ty := .ptr) hl2 (by simp)) hE hc hL rfl rfl (Int.zero_add _) hk,
    by simp [(List.getElem?_eq_some_iff.1 hL).1], SameBut.set L m1 _⟩

/-- `copy.member = strdup(src.member)` -/
theorem cp_strdup (fuel : Nat) (mm : Mem) (loc : List Val) (bs L os k : Nat) (sl : List Val) (b : Nat) (s : List UInt8)
    (hl1 : loc[1]? = some (.ptr bs (os : Int))) (hl2 : loc[2]? = some (.ptr L 0))
    (hL : mm[L]? = some { cells := [], slots := sl }) (hk : k < sl.length)
    (hsrc : mm.loadSlot bs ((os : Int) + (k : Int)) = .ok (.ptr b 0)) (hstr : mm.cstr b 0 = .ok s) :
    ∃ mm', exec fuel (.expr (.assign (.slot (.load (.var 2) .ptr) k) (.call "strdup" (.cons (.load (.slot (.load (.var 1) .ptr) k) .ptr) .nil)) .ptr))
        { mem := mm, loc := loc } = .normal { mem := mm', loc := loc } ∧
      mm'[L]? = some { cells := [], slots := sl.set k (.ptr mm.length 0) } ∧ OptStr mm' (.ptr mm.length 0) (some s) ∧ SameBut L mm mm' := by
  have hl : evalL (.slot (.load (.var 2) .ptr) k) { mem := mm, loc := loc } = .ok (.slot L (k : Int), { mem := mm, loc := loc }) := by
    simp [mc_eval, hl2]
  obtain ⟨mm', he, hlen, hL', hc, hfr⟩ := exec_strdup_word (fuel := fuel) hl
    (evalE_load_slot _ k .ptr _ bs os _ (evalE_var (ty := .ptr) hl1 (by simp)) hsrc) hstr hL hk
  exact ⟨mm', he, hL', .some _ _ hc, hlen ▸ Nat.le_succ _, hfr⟩

/-- `if (src.member) copy.member = strdup(src.member); else copy.member = NULL;` -/
theorem cp_opt (fuel : Nat) (mm : Mem) (loc : List Val) (bs L os k : Nat) (sl : List Val) (v : Val) (s : Option (List UInt8))
    (hl1 : loc[1]? = some (.ptr bs (os : Int))) (hl2 : loc[2]? = some (.ptr L 0))
    (hL : mm[L]? = some { cells := [], slots := sl }) (hk : k < sl.length)
    (hsrc : mm.loadSlot bs ((os : Int) + (k : Int)) = .ok v) (hv : OptStr mm v s) :
    ∃ mm' v', exec fuel (cpOpt k) { mem := mm, loc := loc } = .normal { mem := mm', loc := loc } ∧
      mm'[L]? = some { cells := [], slots := sl.set k v' } ∧ OptStr mm' v' s ∧ SameBut L mm mm' ∧ (∀ b, v' = .ptr b 0 → mm.length ≤ b) := by
  have ht : testOf (some (.load (.slot (.load (.var 1) .ptr) k) .ptr)) { mem := mm, loc := loc } = .ok (s.isSome, { mem := mm, loc := loc }) := by
    cases hv <;> simp [mc_eval, testOf, hl1, hsrc, truth]
  unfold cpOpt
  cases hv with
  | none =>
    rw [exec_ite_false ht]
    obtain ⟨mm', he, hL', K⟩ := cp_assign fuel .null .ptr mm mm loc L k sl .null .null hl2 rfl rfl hL hk
    exact ⟨mm', .null, he, hL', .none, K, fun b hb => by cases hb⟩
  | some b str hc =>
    rw [exec_ite_true ht]
    obtain ⟨mm', he, h1, h2, h3⟩ := cp_strdup fuel mm loc bs L os k sl b str hl1 hl2 hL hk hsrc hc
    exact ⟨mm', _, he, h1, h2, h3, fun b hb => by cases hb; exact Nat.le_refl _⟩

def cpKey : Stmt := .expr (.assign (.slot (.load (.var 2) .ptr) 1) (.call "strdup" (.cons (.load (.slot (.load (.var 1) .ptr) 1) .ptr) .nil)) .ptr)
def cpTail : Stmt := .seq cpKey (.seq (cpOpt 2) (.seq (cpOpt 3) (.seq (cpOpt 4)
  (.seq (.expr (.assign (.slot (.load (.var 2) .ptr) 5) (.load (.slot (.load (.var 1) .ptr) 5) .u64) .u64))
    (.seq (.expr (.assign (.slot (.load (.var 2) .ptr) 6) (.cast .bool (.lit 0 .i32)) .bool))
      (.ret (some (.load (.var 2) .ptr))))))))

/-- the members of the copy other than the group: key, value and comments are fresh copies of the source's, made in this order
    (so the value's block is none of the others'), the line number is the source's, the quote flag is cleared -/
theorem cp_tail (fuel : Nat) (mm : Mem) (loc : List Val) (bs L os : Nat) (e : Econf.Entry) (g : Val)
    (hl1 : loc[1]? = some (.ptr bs (os : Int))) (hl2 : loc[2]? = some (.ptr L 0))
    (hL : mm[L]? = some { cells := [], slots := g :: List.replicate 6 .undef }) (hE : EntMem mm bs os e [L])
    (hline : (e.line : Int) < 18446744073709551616) :
    ∃ mm' v2 v3 v4, exec fuel cpTail { mem := mm, loc := loc } = .ret (.ptr L 0) { mem := mm', loc := loc } ∧
      mm'[L]? = some { cells := [], slots := [g, .ptr mm.length 0, v2, v3, v4, .int (e.line : Int), .int 0] } ∧
      OptStr mm' (.ptr mm.length 0) (some e.key) ∧ OptStr mm' v2 e.value ∧ OptStr mm' v3 e.cb ∧ OptStr mm' v4 e.ca ∧
      SameBut L mm mm' ∧ (∀ b, v2 = .ptr b 0 → mm.length < b ∧ v3 ≠ .ptr b 0 ∧ v4 ≠ .ptr b 0) ∧
      (∀ b, v3 = .ptr b 0 ∨ v4 = .ptr b 0 → mm.length < b) := by
  have hLlt : L < mm.length := (List.getElem?_eq_some_iff.1 hL).1
  have hav : L ∈ [L] := List.mem_singleton_self L
  obtain ⟨bq, q1, q2, _⟩ := hE.key
  obtain ⟨mm2, hS2, hL2, o2, K2⟩ := cp_strdup fuel mm loc bs L os 1 _ bq e.key hl1 hl2 hL (by simp) (by simpa using q1) q2
  have hlt2 := o2.lt _ rfl
  obtain ⟨w2, r2, s2, _⟩ := (hE.same K2 hav).val
  obtain ⟨mm3, v2, hS3, hL3, o3, K3, f3⟩ := cp_opt fuel mm2 loc bs L os 2 _ w2 e.value hl1 hl2 hL2 (by simp) (by simpa using r2) s2
  obtain ⟨w3, r3, s3, _⟩ := (hE.same (K2.trans K3) hav).cb
  obtain ⟨mm4, v3, hS4, hL4, o4, K4, f4⟩ := cp_opt fuel mm3 loc bs L os 3 _ w3 e.cb hl1 hl2 hL3 (by simp) (by simpa using r3) s3
  obtain ⟨w4, r4, s4, _⟩ := (hE.same (K2.trans (K3.trans K4)) hav).ca
  obtain ⟨mm5, v4, hS5, hL5, o5, K5, f5⟩ := cp_opt fuel mm4 loc bs L os 4 _ w4 e.ca hl1 hl2 hL4 (by simp) (by simpa using r4) s4
  have hln := (hE.same (K2.trans (K3.trans (K4.trans K5))) hav).line
  have hw : convert .u64 (.int (e.line : Int)) = .ok (.int (e.line : Int)) := by
    simp [convert, wrapTo_u64_small _ (Int.natCast_nonneg _) hline]
  obtain ⟨mm6, hS6, hL6, K6⟩ := cp_assign fuel _ .u64 mm5 mm5 loc L 5 _ _ _ hl2
    (evalE_load_slot _ 5 .u64 _ bs os _ (evalE_var (ty := .ptr) hl1 (by simp)) hln) hw hL5 (by simp)
  have b0 : wrapTo .bool 0 = 0 := by decide
  have hflag : evalE (.cast .bool (.lit 0 .i32)) { mem := mm6, loc := loc } = .ok (.int 0, { mem := mm6, loc := loc }) := by
    simp [mc_eval, convert, b0]
  obtain ⟨mm7, hS7, hL7, K7⟩ := cp_assign fuel _ .bool mm6 mm6 loc L 6 _ _ (.int 0) hl2 hflag (by simp [convert, b0]) hL6 (by simp)
  have hL2 : L < mm2.length := Nat.lt_trans hLlt hlt2
  have hf2 : ∀ b, v2 = .ptr b 0 → b ≠ L := fun b hb => Nat.ne_of_gt (Nat.lt_of_lt_of_le hL2 (f3 b hb))
  have hf3 : ∀ b, v3 = .ptr b 0 → b ≠ L := fun b hb => Nat.ne_of_gt (Nat.lt_of_lt_of_le hL2 (Nat.le_trans K3.1 (f4 b hb)))
  have hf4 : ∀ b, v4 = .ptr b 0 → b ≠ L := fun b hb =>
    Nat.ne_of_gt (Nat.lt_of_lt_of_le hL2 (Nat.le_trans K3.1 (Nat.le_trans K4.1 (f5 b hb))))
  refine ⟨mm7, v2, v3, v4, ?_, hL7, o2.same (K3.trans (K4.trans (K5.trans (K6.trans K7)))) (fun b hb => by cases hb; exact Nat.ne_of_gt hLlt),
    o3.same (K4.trans (K5.trans (K6.trans K7))) hf2, o4.same (K5.trans (K6.trans K7)) hf3, o5.same (K6.trans K7) hf4,
    K2.trans (K3.trans (K4.trans (K5.trans (K6.trans K7)))), ?_, ?_⟩
  · unfold cpTail cpKey
    rw [exec_seq_normal hS2, exec_seq_normal hS3, exec_seq_normal hS4, exec_seq_normal hS5, exec_seq_normal hS6, exec_seq_normal hS7]
    simp [mc_exec, mc_eval, hl2]
  · intro b hb
    have h1 := f3 b hb
    have h2 := o3.lt b hb
    exact ⟨Nat.lt_of_lt_of_le hlt2 h1, fun h => Nat.lt_irrefl b (Nat.lt_of_lt_of_le h2 (f4 b h)),
      fun h => Nat.lt_irrefl b (Nat.lt_of_lt_of_le h2 (Nat.le_trans K4.1 (f5 b h)))⟩
  · intro b hb
    rcases hb with hb | hb
    · exact Nat.lt_of_lt_of_le hlt2 (Nat.le_trans K3.1 (f4 b hb))
    · exact Nat.lt_of_lt_of_le hlt2 (Nat.le_trans K3.1 (Nat.le_trans K4.1 (f5 b hb)))

theorem cpy_file_entry_shape : LeafFns.cpy_file_entry.body =
    .seq (.expr (.assign (.var 2) (.call "alloca_words" (.cons (.lit 7 .u64) .nil)) .ptr))
      (.seq (.inl (some (.slot (.load (.var 2) .ptr) 0)) .ptr (.cons (.load (.var 0) .ptr) (.cons (.load (.slot (.load (.var 1) .ptr) 0) .ptr) .nil)) 3
          LeafFns.setGroupList.body) cpTail) := rfl

/-- `cpy_file_entry(dest_kf, fe)` on the translated term: no fault; the copy (a struct of the callee, block `m.length`) holds
    the model's `cpyEntry fe` – fresh copies of key, value and comments, the line number, the quote flag cleared – with its
    group pointer taken from the destination's group list, which is `addGroup` of the old one; the source is untouched.
    `e.line < 2^64`: the model's line number is a `Nat`, the member a `uint64_t`. -/
theorem cpy_file_entry_exec (m : Mem) (bk bl bs os : Nat) (gl : List (Nat × List UInt8)) (e : Econf.Entry)
    (hG : GlMem m bk bl gl) (hE : EntMem m bs os e [bk, bl])
    (hkw : ∀ blk, m[bk]? = some blk → blk.writable = true) (hne : gl ≠ [] → bk ≠ bl) (hd : ∀ x, x ∈ gl → x.1 ≠ bk ∧ x.1 ≠ bl)
    (hsmall : (gl.length : Int) + 2 < 2147483648) (hline : (e.line : Int) < 18446744073709551616) (fuel : Nat) (hf : gl.length + 1 < fuel) :
    ∃ m' loc' bl' gl', exec fuel LeafFns.cpy_file_entry.body { mem := m, loc := [.ptr bk 0, .ptr bs (os : Int), .undef] } =
        .ret (.ptr m.length 0) { mem := m', loc := loc' } ∧
      EntMem m' m.length 0 (Econf.cpyEntry e) [bk, bl'] ∧ m'.loadSlot m.length 6 = .ok (.int 0) ∧
      (∃ ws, m'[m.length]? = some ({ cells := [], slots := ws } : Block) ∧ ws.length = 7) ∧
      GlMem m' bk bl' gl' ∧ gl'.map (·.2) = Econf.addGroup (gl.map (·.2)) e.group ∧
      (∃ bg, m'.loadSlot m.length 0 = .ok (.ptr bg 0) ∧ (bg, e.group) ∈ gl') ∧
      (∀ b, b < m.length → b ≠ bk → b ≠ bl → m'[b]? = m[b]?) ∧ (bl' = bl ∨ m.length ≤ bl') ∧
      (∀ kb blk, m[bk]? = some kb → m'[bk]? = some blk → KfKeep kb blk) ∧ (gl' ≠ [] → bk ≠ bl') ∧ (∀ x, x ∈ gl' → x.1 ≠ bk ∧ x.1 ≠ bl') ∧ gl'.length ≤ gl.length + 1 ∧
      -- the value of the copy has a block of its own, made here: no other member of the copy and no string of the group list lives there
      (∀ bv, m'.loadSlot m.length 2 = .ok (.ptr bv 0) → m.length < bv ∧ m'.loadSlot m.length 0 ≠ .ok (.ptr bv 0) ∧
        m'.loadSlot m.length 1 ≠ .ok (.ptr bv 0) ∧ m'.loadSlot m.length 3 ≠ .ok (.ptr bv 0) ∧ m'.loadSlot m.length 4 ≠ .ok (.ptr bv 0) ∧
        bl' ≠ bv ∧ ∀ x, x ∈ gl' → x.1 ≠ bv) := by
  obtain ⟨L, hLdef⟩ : ∃ L, L = m.length := ⟨_, rfl⟩
  rw [← hLdef]
  obtain ⟨loc, hloc⟩ : ∃ loc : List Val, loc = [.ptr bk 0, .ptr bs (os : Int), .ptr L 0] := ⟨_, rfl⟩
  -- the struct copy: seven words on the callee's stack
  obtain ⟨m0, hm0⟩ : ∃ m0 : Mem, m0 = m ++ [{ cells := [], slots := List.replicate 7 .undef }] := ⟨_, rfl⟩
  have hm0fr : ∀ b, b < m.length → m0[b]? = m[b]? := fun b hb => by rw [hm0, List.getElem?_append_left hb]
  have hm0L : m0[L]? = some { cells := [], slots := List.replicate 7 .undef } := by simp [hm0, hLdef]
  have hm0len : m0.length = L + 1 := by simp [hm0, hLdef]
  have hbk : bk < L := hLdef ▸ hG.bk_lt
  have hbl : bl < L := hLdef ▸ hG.bl_lt
  have hLbk : L ≠ bk := Nat.ne_of_gt hbk
  have hLbl : L ≠ bl := Nat.ne_of_gt hbl
  have hL0 : L < m0.length := hm0len ▸ Nat.lt_succ_self L
  -- the group goes into the destination's list; its element there into member 0 of the copy
  obtain ⟨bg, eg1, eg2, eg3⟩ := (hE.mono (fun b hb _ => hm0fr b hb)).grp
  obtain ⟨m1, loc1, b', bl', gl', hsg, hG1, hnames, hmem1, hlen1, hfr1, hkw1, hne1, hd1, hgl'len, hblor⟩ :=
    setGroupList_spec m0 bk bl bg gl e.group (hG.grow hm0fr) eg2 (fun blk hb => hkw blk (by rw [← hm0fr bk (hLdef ▸ hbk)]; exact hb)) hne hd
      (by simpa using eg3) hsmall fuel hf
  have hm1L : m1[L]? = some { cells := [], slots := List.replicate 7 .undef } := by rw [hfr1 L hL0 hLbk hLbl]; exact hm0L
  have hb'str : m1.cstr b' 0 = .ok e.group := by
    obtain ⟨i, hi, hgi⟩ := List.getElem_of_mem hmem1
    have := hG1.str i hi
    rwa [hgi] at this
  have hL1lt : L < m1.length := Nat.lt_of_lt_of_le hL0 hlen1
  have hst : m1.storeSlot L 0 (.ptr b' 0) = .ok (m1.set L { cells := [], slots := .ptr b' 0 :: List.replicate 6 .undef }) :=
    storeSlot_of (i := 0) (.ptr b' 0) hm1L rfl rfl (by simp)
  obtain ⟨m2, hm2⟩ : ∃ m2 : Mem, m2 = m1.set L { cells := [], slots := .ptr b' 0 :: List.replicate 6 .undef } := ⟨_, rfl⟩
  have K12 : SameBut L m1 m2 := hm2 ▸ SameBut.set L m1 _
  have hm2L : m2[L]? = some { cells := [], slots := .ptr b' 0 :: List.replicate 6 .undef } := by simp [hm2, hL1lt]
  have hfr2 : ∀ b, b < L → b ≠ bk → b ≠ bl → m2[b]? = m[b]? := fun b hb h1 h2 => by
    rw [K12.2 b (Nat.lt_trans hb hL1lt) (Nat.ne_of_lt hb), hfr1 b (Nat.lt_trans hb hL0) h1 h2, hm0fr b (hLdef ▸ hb)]
  have hE2 : EntMem m2 bs os e [L] :=
    hE.transfer (fun b hb hav => hfr2 b (hLdef ▸ hb) (by simp at hav; exact hav.1) (by simp at hav; exact hav.2)) (fun b hb _ h => Nat.ne_of_lt (hLdef ▸ hb) (List.mem_singleton.1 h))
  -- the other members
  obtain ⟨m', v2, v3, v4, hS3, hL', ok, o2, o3, o4, K2, hval, hcom⟩ :=
    cp_tail fuel m2 loc bs L os e (.ptr b' 0) (hloc ▸ rfl) (hloc ▸ rfl) hm2L hE2 hline
  have K1 := K12.trans K2
  have hm2len : m2.length = m1.length := by simp [hm2]
  rw [hm2len] at hL' ok hval hcom
  have hbl'lt : bl' < m1.length := hG1.bl_lt
  have hb'lt : b' < m1.length := cstr_lt hb'str
  have hbk1 : bk < m1.length := Nat.lt_trans hbk hL1lt
  have hbl'ne : bl' ≠ L := by
    rcases hblor with h1 | h1
    · exact h1 ▸ Nat.ne_of_lt hbl
    · exact Nat.ne_of_gt (Nat.lt_of_lt_of_le hL0 h1)
  have hgl'ne : ∀ x, x ∈ gl' → x.1 ≠ L := fun x hx => hG1.str_ne hm1L rfl hx
  have fresh : ∀ b, m1.length ≤ b → b ∉ [bk, bl'] := fun b hb => not_mem_pair hbk1 hbl'lt hb
  have ld : ∀ (i : Nat) (v : Val), [.ptr b' 0, .ptr m1.length 0, v2, v3, v4, .int (e.line : Int), .int 0][i]? = some v → v ≠ .undef →
      m'.loadSlot L (i : Int) = .ok v := fun i v hi hv => loadSlot_of hL' rfl hi hv
  have hg7 : m'.loadSlot L 0 = .ok (.ptr b' 0) := ld 0 _ rfl (by simp)
  have hk7 : m'.loadSlot L 1 = .ok (.ptr m1.length 0) := ld 1 _ rfl (by simp)
  have h27 : m'.loadSlot L 2 = .ok v2 := ld 2 _ rfl o2.ne_undef
  have h37 : m'.loadSlot L 3 = .ok v3 := ld 3 _ rfl o3.ne_undef
  have h47 : m'.loadSlot L 4 = .ok v4 := ld 4 _ rfl o4.ne_undef
  refine ⟨m', loc, bl', gl', ?_, ?_, ld 6 _ rfl (by simp), ⟨_, hL', rfl⟩, hG1.mono L K1.2 hLbk.symm hbl'ne hgl'ne, hnames, ⟨b', hg7, hmem1⟩,
    fun b hb h1 h2 => by rw [K2.2 b (hm2len ▸ Nat.lt_trans hb hL1lt) (Nat.ne_of_lt hb)]; exact hfr2 b hb h1 h2, ?_, ?_, hne1, hd1, hgl'len, ?_⟩
  · -- the run: the struct, the group through `setGroupList`, the other members
    rw [cpy_file_entry_shape]
    refine exec_seq_step (st' := ⟨m0, loc⟩) (by simp [mc_exec, mc_eval, (alloc_words_spec _ _).2, convert, hLdef, hm0, hloc]) ?_
    refine exec_seq_step (st' := ⟨m2, loc⟩) ?_ hS3
    rw [hm2]
    exact exec_inl_lval (p := .slot L 0) (st1 := ⟨m0, loc⟩) (st2 := ⟨m1, loc⟩) (vs := [.ptr bk 0, .ptr bg 0]) (by simp [mc_eval, hloc, eg1])
      (by simpa using hsg) (by simp [mc_eval, hloc]) (by simp [mc_eval, convert, hst])
  · have hkey : m'.cstr m1.length 0 = .ok e.key := by cases ok with | some _ _ h => exact h
    exact ⟨by simp [hLbk, Ne.symm hbl'ne],
      ⟨b', by simpa using hg7, by rw [cstr_congr (K1.2 b' hb'lt (hgl'ne _ hmem1))]; exact hb'str, by simpa using hd1 _ hmem1⟩,
      ⟨m1.length, by simpa using hk7, hkey, fresh _ (Nat.le_refl _)⟩,
      ⟨v2, by simpa using h27, o2, fun b hb => fresh b (Nat.le_of_lt (hval b hb).1)⟩,
      ⟨v3, by simpa using h37, o3, fun b hb => fresh b (Nat.le_of_lt (hcom b (Or.inl hb)))⟩,
      ⟨v4, by simpa using h47, o4, fun b hb => fresh b (Nat.le_of_lt (hcom b (Or.inr hb)))⟩, by simpa [Econf.cpyEntry] using ld 5 _ rfl (by simp)⟩
  · rcases hblor with h1 | h1
    · exact Or.inl h1
    · exact Or.inr (Nat.le_of_lt (Nat.lt_of_lt_of_le hL0 h1))
  · intro kb blk hk hb
    rw [K1.2 bk hbk1 hLbk.symm] at hb
    exact hkw1 kb blk (by rw [hm0fr bk (hLdef ▸ hbk)]; exact hk) hb
  · -- the value's block is the one `strdup` made for it
    intro bv hbv
    have hv2 : v2 = .ptr bv 0 := by rw [h27] at hbv; injection hbv
    obtain ⟨f1, f2, f3⟩ := hval bv hv2
    have low : ∀ b, b < m1.length → b ≠ bv := fun b hb => Nat.ne_of_lt (Nat.lt_trans hb f1)
    refine ⟨Nat.lt_trans hL1lt f1, ?_, ?_, ?_, ?_, low bl' hbl'lt, fun x hx => low _ (hG1.str_lt hx)⟩
    · rw [hg7]; intro hh; injection hh with hh; injection hh with hh; exact low b' hb'lt hh
    · rw [hk7]; intro hh; injection hh with hh; injection hh with hh; exact Nat.ne_of_lt f1 hh
    · rw [h37]; intro hh; injection hh with hh; exact f2 hh
    · rw [h47]; intro hh; injection hh with hh; exact f3 hh

/-! ## the append step of the merge: `(*fe)[idx] = cpy_file_entry(dest_kf, src)` -/

/-- `(*fe)[idx] = cpy_file_entry(dest_kf, src)` – the step all three loops of the merge are built from: when the index is
    below the capacity of the array the step runs without a fault, the seven words of the model's `cpyEntry src` land at
    words `7·idx … 7·idx+6` of the array, nothing else in the array changes, the destination's group list becomes `addGroup`,
    and the blocks of the caller other than the destination's two and the array are untouched. -/
theorem fe_append_exec (m : Mem) (bk bl cell fa bs os : Nat) (gl : List (Nat × List UInt8)) (e : Econf.Entry)
    (loc loc2 : List Val) (srcE idxE : Expr) (t a cap : Nat)
    (hG : GlMem m bk bl gl) (hE : EntMem m bs os e [bk, bl])
    (hkw : ∀ blk, m[bk]? = some blk → blk.writable = true) (hne : gl ≠ [] → bk ≠ bl) (hd : ∀ x, x ∈ gl → x.1 ≠ bk ∧ x.1 ≠ bl)
    (hsmall : (gl.length : Int) + 2 < 2147483648) (hline : (e.line : Int) < 18446744073709551616) (fuel : Nat) (hf : gl.length + 1 < fuel)
    (hl0 : loc[0]? = some (.ptr bk 0)) (hl1 : loc[1]? = some (.ptr cell 0)) (ht : t < loc.length) (ht1 : t ≠ 1)
    (hsrc : evalE srcE { mem := m, loc := loc } = .ok (.ptr bs (os : Int), { mem := m, loc := loc }))
    (hidx : ∀ mm, evalE idxE { mem := mm, loc := loc.set t (.ptr m.length 0) } = .ok (.int (a : Int), { mem := mm, loc := loc2 }))
    (hl2t : loc2[t]? = some (.ptr m.length 0))
    (cblk : Block) (hc1 : m[cell]? = some cblk) (hc2 : cblk.live = true) (hc3 : cblk.slots[0]? = some (.ptr fa 0)) (hcne : cell ≠ bk ∧ cell ≠ bl)
    (ablk : Block) (ha1 : m[fa]? = some ablk) (ha2 : ablk.live = true) (ha3 : ablk.writable = true) (ha4 : ablk.slots.length = 7 * cap)
    (hane : fa ≠ bk ∧ fa ≠ bl) (hacap : a < cap) :
    ∃ m1 m' bl' gl' ws, exec fuel (.seq (.inl (some (.var t)) .ptr (.cons (.load (.var 0) .ptr) (.cons srcE .nil)) 3 LeafFns.cpy_file_entry.body)
          (.expr (.call "copy_words" (.cons (.sidx (.load (.slot (.load (.var 1) .ptr) 0) .ptr) idxE 7) (.cons (.load (.var t) .ptr) (.cons (.lit 7 .u64) .nil))))))
        { mem := m, loc := loc } = .normal { mem := m', loc := loc2 } ∧
      EntMem m1 m.length 0 (Econf.cpyEntry e) [bk, bl'] ∧ m1[m.length]? = some ({ cells := [], slots := ws } : Block) ∧ ws.length = 7 ∧
      GlMem m1 bk bl' gl' ∧ gl'.map (·.2) = Econf.addGroup (gl.map (·.2)) e.group ∧
      (∀ b, b < m.length → b ≠ bk → b ≠ bl → m1[b]? = m[b]?) ∧
      m' = m1.set fa { ablk with slots := ablk.slots.take (7 * a) ++ ws ++ ablk.slots.drop (7 * a + 7) } ∧
      (bl' = bl ∨ m.length ≤ bl') ∧ (∀ kb blk, m[bk]? = some kb → m1[bk]? = some blk → KfKeep kb blk) ∧ (gl' ≠ [] → bk ≠ bl') ∧
      (∀ x, x ∈ gl' → x.1 ≠ bk ∧ x.1 ≠ bl') ∧ gl'.length ≤ gl.length + 1 ∧
      (∀ bv, m1.loadSlot m.length 2 = .ok (.ptr bv 0) → m.length < bv ∧ m1.loadSlot m.length 0 ≠ .ok (.ptr bv 0) ∧
        m1.loadSlot m.length 1 ≠ .ok (.ptr bv 0) ∧ m1.loadSlot m.length 3 ≠ .ok (.ptr bv 0) ∧ m1.loadSlot m.length 4 ≠ .ok (.ptr bv 0) ∧
        bl' ≠ bv ∧ ∀ x, x ∈ gl' → x.1 ≠ bv) := by
  have e7 : ((7 * a : Nat) : Int) = (a : Int) * 7 := by rw [Int.natCast_mul, Int.mul_comm]; rfl
  have hcap : 7 * a + 7 ≤ 7 * cap := by rw [← Nat.mul_succ]; exact Nat.mul_le_mul_left 7 hacap
  obtain ⟨m1, loc1, bl', gl', hcp, hEnt, _, ⟨ws, hws, hwl⟩, hG1, hnames, _, hfr, hblor, hkw1, hne1, hd1, hgll, hfresh⟩ :=
    cpy_file_entry_exec m bk bl bs os gl e hG hE hkw hne hd hsmall hline fuel hf
  have hargs : evalArgs (.cons (.load (.var 0) .ptr) (.cons srcE .nil)) { mem := m, loc := loc } =
      .ok ([.ptr bk 0, .ptr bs (os : Int)], { mem := m, loc := loc }) := by
    simp [mc_eval, hl0, hsrc]
  have hinl := exec_inl_val (fuel := fuel) (nl := 3) (i := t) (dty := .ptr) (v' := .ptr m.length 0) hargs (by simpa using hcp) (by simp [convert]) (by simpa using ht)
  have hclt : cell < m.length := (List.getElem?_eq_some_iff.1 hc1).1
  have halt : fa < m.length := (List.getElem?_eq_some_iff.1 ha1).1
  have hc1' : m1[cell]? = some cblk := by rw [hfr cell hclt hcne.1 hcne.2]; exact hc1
  have ha1' : m1[fa]? = some ablk := by rw [hfr fa halt hane.1 hane.2]; exact ha1
  have hld : m1.loadWords m.length 0 7 = .ok ws := by
    have := loadWords_of (m := m1) (b := m.length) (o := 0) (n := 7) hws rfl (by simp [hwl])
    simpa [hwl, List.take_of_length_le] using this
  have hst : m1.storeWords fa ((a : Int) * 7) ws = .ok (m1.set fa { ablk with slots := ablk.slots.take (7 * a) ++ ws ++ ablk.slots.drop (7 * a + 7) }) := by
    rw [← e7]
    simpa [hwl] using storeWords_of (o := 7 * a) ws ha1' ha2 ha3 (by rw [hwl, ha4]; exact hcap)
  refine ⟨m1, _, bl', gl', ws, ?_, hEnt, hws, hwl, hG1, hnames, hfr, rfl, hblor, hkw1, hne1, hd1, hgll, hfresh⟩
  rw [exec_seq_normal hinl]
  have hcl : m1.loadSlot cell 0 = .ok (.ptr fa 0) := by simpa using loadSlot_of (i := 0) hc1' hc2 hc3 (by simp)
  have hl1' : (loc.set t (.ptr m.length 0))[1]? = some (.ptr cell 0) := by rw [List.getElem?_set_ne ht1]; exact hl1
  have hsx : slotAdd m1 fa 0 ((a : Int) * 7) = .ok (.ptr fa ((a : Int) * 7)) := by
    rw [← e7]
    exact slotAdd_of (7 * a) ha1' ha2 (by rw [ha4]; exact Nat.le_trans (Nat.le_add_right _ _) hcap)
  exact exec_copy_words fuel _ _ _ _ _ fa m.length _ 0 ws _
    (evalE_sidx_of _ _ _ _ fa 0 (a : Int) 7 _ (evalE_load_slot _ 0 .ptr _ cell 0 _ (evalE_var (ty := .ptr) hl1' (by simp)) (by simpa using hcl))
      (hidx m1) (by simpa using hsx))
    (evalE_var (ty := .ptr) hl2t (by simp)) hld hst

/-- word `k` of the array element the copy went to is word `k` of the copy -/
theorem moved_word {m1 : Mem} {L fa a k : Nat} {ws : List Val} {ablk : Block} (hL : m1[L]? = some ({ cells := [], slots := ws } : Block))
    (hwl : ws.length = 7) (ha : m1[fa]? = some ablk) (hal : ablk.live = true) (hlen : 7 * a + 7 ≤ ablk.slots.length) (hk : k < 7) (w : Val) :
    Mem.loadSlot (m1.set fa { ablk with slots := ablk.slots.take (7 * a) ++ ws ++ ablk.slots.drop (7 * a + 7) }) fa ((7 * a + k : Nat) : Int) = .ok w ↔
      m1.loadSlot L (k : Int) = .ok w := by
  have hnew : (m1.set fa { ablk with slots := ablk.slots.take (7 * a) ++ ws ++ ablk.slots.drop (7 * a + 7) })[fa]? =
      some { ablk with slots := ablk.slots.take (7 * a) ++ ws ++ ablk.slots.drop (7 * a + 7) } := by
    simp [(List.getElem?_eq_some_iff.1 ha).1]
  have hsp := splice_in ablk.slots ws (7 * a) 7 k (by omega) hwl hk
  constructor
  · intro h
    obtain ⟨s1, s2, _⟩ := loadSlot_inv h hnew
    exact loadSlot_of hL rfl (by rw [← hsp]; exact s1) s2
  · intro h
    obtain ⟨s1, s2, _⟩ := loadSlot_inv h hL
    exact loadSlot_of hnew hal (by rw [hsp]; exact s1) s2

set_option linter.unusedVariables false in
/-- the copy, moved word for word into the array (`(*fe)[a] = copy`), is the same entry there -/
theorem EntMem.moved {m1 : Mem} {L fa a : Nat} {e : Econf.Entry} {ws : List Val} {ablk : Block} {avoid : List Nat}
    (h : EntMem m1 L 0 e avoid) (hL : m1[L]? = some ({ cells := [], slots := ws } : Block)) (hwl : ws.length = 7)
    (ha : m1[fa]? = some ablk) (hal : ablk.live = true) (hac : ablk.cells = []) (hlen : 7 * a + 7 ≤ ablk.slots.length) (hne : fa ≠ L)
    (hfav : fa ∉ avoid) :
    EntMem (m1.set fa { ablk with slots := ablk.slots.take (7 * a) ++ ws ++ ablk.slots.drop (7 * a + 7) }) fa (7 * a) e avoid := by
  obtain ⟨m', hm'⟩ : ∃ m' : Mem, m' = m1.set fa { ablk with slots := ablk.slots.take (7 * a) ++ ws ++ ablk.slots.drop (7 * a + 7) } := ⟨_, rfl⟩
  rw [← hm']
  have wordAt : ∀ (k : Nat) (v : Val), k < 7 → m1.loadSlot L (k : Int) = .ok v → m'.loadSlot fa ((7 * a + k : Nat) : Int) = .ok v :=
    fun k v hk hl => hm' ▸ (moved_word hL hwl ha hal hlen hk v).2 hl
  -- the array holds no string
  have strOk : ∀ (b : Nat) (str : List UInt8), m1.cstr b 0 = .ok str → m'.cstr b 0 = .ok str := fun b str hc => by
    have : b ≠ fa := fun hb => no_cstr ha hac str (hb ▸ hc)
    rw [hm', cstr_congr (set_other this)]
    exact hc
  have optOk : ∀ (v : Val) (so : Option (List UInt8)), OptStr m1 v so → OptStr m' v so := fun v so hv => by
    cases hv with
    | none => exact .none
    | some b str hc => exact .some b str (strOk b str hc)
  obtain ⟨bg, g1, g2, g3⟩ := h.grp
  obtain ⟨bq, k1, k2, k3⟩ := h.key
  obtain ⟨v, v1, v2, v3⟩ := h.val
  obtain ⟨vb, b1, b2, b3⟩ := h.cb
  obtain ⟨va, a1, a2, a3⟩ := h.ca
  refine ⟨hfav, ⟨bg, by simpa using wordAt 0 _ (by omega) (by simpa using g1), strOk _ _ g2, g3⟩,
    ⟨bq, by simpa using wordAt 1 _ (by omega) (by simpa using k1), strOk _ _ k2, k3⟩,
    ⟨v, by simpa using wordAt 2 _ (by omega) (by simpa using v1), optOk _ _ v2, v3⟩,
    ⟨vb, by simpa using wordAt 3 _ (by omega) (by simpa using b1), optOk _ _ b2, b3⟩,
    ⟨va, by simpa using wordAt 4 _ (by omega) (by simpa using a1), optOk _ _ a2, a3⟩,
    by simpa using wordAt 5 _ (by omega) (by simpa using h.line)⟩

/-- the append step as the loops use it: afterwards the array element `a` is the model's `cpyEntry` of the source, the
    destination lists the group, and the rest of the caller's memory is as before -/
theorem C_fe_append (m : Mem) (bk bl cell fa bs os : Nat) (gl : List (Nat × List UInt8)) (e : Econf.Entry)
    (loc loc2 : List Val) (srcE idxE : Expr) (t a cap : Nat)
    (hG : GlMem m bk bl gl) (hE : EntMem m bs os e [bk, bl])
    (hkw : ∀ blk, m[bk]? = some blk → blk.writable = true) (hne : gl ≠ [] → bk ≠ bl) (hd : ∀ x, x ∈ gl → x.1 ≠ bk ∧ x.1 ≠ bl)
    (hsmall : (gl.length : Int) + 2 < 2147483648) (hline : (e.line : Int) < 18446744073709551616) (fuel : Nat) (hf : gl.length + 1 < fuel)
    (hl0 : loc[0]? = some (.ptr bk 0)) (hl1 : loc[1]? = some (.ptr cell 0)) (ht : t < loc.length) (ht1 : t ≠ 1)
    (hsrc : evalE srcE { mem := m, loc := loc } = .ok (.ptr bs (os : Int), { mem := m, loc := loc }))
    (hidx : ∀ mm, evalE idxE { mem := mm, loc := loc.set t (.ptr m.length 0) } = .ok (.int (a : Int), { mem := mm, loc := loc2 }))
    (hl2t : loc2[t]? = some (.ptr m.length 0))
    (cblk : Block) (hc1 : m[cell]? = some cblk) (hc2 : cblk.live = true) (hc3 : cblk.slots[0]? = some (.ptr fa 0)) (hcne : cell ≠ bk ∧ cell ≠ bl)
    (ablk : Block) (ha1 : m[fa]? = some ablk) (ha2 : ablk.live = true) (ha3 : ablk.writable = true) (ha4 : ablk.slots.length = 7 * cap)
    (ha5 : ablk.cells = []) (hane : fa ≠ bk ∧ fa ≠ bl) (hacap : a < cap) :
    ∃ m' bl' gl', exec fuel (.seq (.inl (some (.var t)) .ptr (.cons (.load (.var 0) .ptr) (.cons srcE .nil)) 3 LeafFns.cpy_file_entry.body)
          (.expr (.call "copy_words" (.cons (.sidx (.load (.slot (.load (.var 1) .ptr) 0) .ptr) idxE 7) (.cons (.load (.var t) .ptr) (.cons (.lit 7 .u64) .nil))))))
        { mem := m, loc := loc } = .normal { mem := m', loc := loc2 } ∧
      EntMem m' fa (7 * a) (Econf.cpyEntry e) [bk, bl'] ∧
      GlMem m' bk bl' gl' ∧ gl'.map (·.2) = Econf.addGroup (gl.map (·.2)) e.group ∧
      (∀ b, b < m.length → b ≠ bk → b ≠ bl → b ≠ fa → m'[b]? = m[b]?) ∧
      (∃ ablk', m'[fa]? = some ablk' ∧ ablk'.live = true ∧ ablk'.writable = true ∧ ablk'.cells = [] ∧ ablk'.slots.length = 7 * cap ∧
        ∀ i, (i < 7 * a ∨ 7 * a + 7 ≤ i) → ablk'.slots[i]? = ablk.slots[i]?) ∧
      m.length ≤ m'.length ∧
      (bl' = bl ∨ m.length ≤ bl') ∧ (∀ kb blk, m[bk]? = some kb → m'[bk]? = some blk → KfKeep kb blk) ∧ (gl' ≠ [] → bk ≠ bl') ∧
      (∀ x, x ∈ gl' → x.1 ≠ bk ∧ x.1 ≠ bl') ∧ gl'.length ≤ gl.length + 1 ∧
      -- the value of the new element has a block of its own, made in this step
      (∀ bv, m'.loadSlot fa (((7 * a : Nat) : Int) + 2) = .ok (.ptr bv 0) → m.length < bv ∧
        (∀ k : Nat, k < 5 → k ≠ 2 → m'.loadSlot fa (((7 * a : Nat) : Int) + (k : Int)) ≠ .ok (.ptr bv 0)) ∧ bl' ≠ bv ∧ ∀ x, x ∈ gl' → x.1 ≠ bv) := by
  have hlen : 7 * a + 7 ≤ ablk.slots.length := by rw [ha4, ← Nat.mul_succ]; exact Nat.mul_le_mul_left 7 hacap
  obtain ⟨m1, m', bl', gl', ws, hex, hEnt, hws, hwl, hG1, hnames, hfr, hm', hblor, hkw1, hne1, hd1, hgll, hfresh⟩ :=
    fe_append_exec m bk bl cell fa bs os gl e loc loc2 srcE idxE t a cap hG hE hkw hne hd hsmall hline fuel hf hl0 hl1 ht ht1 hsrc hidx hl2t
      cblk hc1 hc2 hc3 hcne ablk ha1 ha2 ha3 ha4 hane hacap
  have halt : fa < m.length := (List.getElem?_eq_some_iff.1 ha1).1
  have ha1' : m1[fa]? = some ablk := by rw [hfr fa halt hane.1 hane.2]; exact ha1
  have hblfa : bl' ≠ fa := by
    rcases hblor with h1 | h1
    · rw [h1]; exact Ne.symm hane.2
    · exact Nat.ne_of_gt (Nat.lt_of_lt_of_le halt h1)
  have hmoved := EntMem.moved (a := a) hEnt hws hwl ha1' ha2 ha5 hlen (Nat.ne_of_lt halt) (by simp; exact ⟨hane.1, Ne.symm hblfa⟩)
  rw [← hm'] at hmoved
  have hother : ∀ b, b ≠ fa → m'[b]? = m1[b]? := fun b hb => by rw [hm']; exact set_other hb
  -- the array holds no string, so nothing the group list points at is the array
  have hG' : GlMem m' bk bl' gl' := hG1.mono fa (fun b _ hb => hother b hb) (Ne.symm hane.1) hblfa (fun x hx => hG1.str_ne ha1' ha5 hx)
  have hfa' : m'[fa]? = some { ablk with slots := ablk.slots.take (7 * a) ++ ws ++ ablk.slots.drop (7 * a + 7) } := by
    rw [hm']; simp [(List.getElem?_eq_some_iff.1 ha1').1]
  refine ⟨m', bl', gl', hex, hmoved, hG', hnames, fun b hb h1 h2 h3 => by rw [hother b h3, hfr b hb h1 h2],
    ⟨_, hfa', ha2, ha3, ha5, by rw [← ha4]; exact splice_length _ _ _ 7 hlen hwl, fun i hi => splice_out _ _ _ 7 i hlen hwl hi⟩,
    by rw [hm', List.length_set]; exact Nat.le_of_lt (List.getElem?_eq_some_iff.1 hws).1,
    hblor, fun kb blk hk hb => hkw1 kb blk hk (by rw [← hother bk (Ne.symm hane.1)]; exact hb), hne1, hd1, hgll, ?_⟩
  intro bv hbv
  have back : ∀ (k : Nat) (w : Val), k < 7 → m'.loadSlot fa (((7 * a : Nat) : Int) + (k : Int)) = .ok w → m1.loadSlot m.length (k : Int) = .ok w :=
    fun k w hk hl => by
      rw [← Int.natCast_add, hm'] at hl
      exact (moved_word hws hwl ha1' ha2 hlen hk w).1 hl
  obtain ⟨f1, f2, f3, f4, f5, f7, f6⟩ := hfresh bv (by simpa using back 2 _ (by decide) hbv)
  refine ⟨f1, ?_, f7, f6⟩
  intro k hk hk2 hl
  have hb := back k _ (Nat.lt_trans hk (by decide)) hl
  rcases k with _ | _ | _ | _ | _ | k
  · exact f2 (by simpa using hb)
  · exact f3 (by simpa using hb)
  · exact absurd rfl hk2
  · exact f4 (by simpa using hb)
  · exact f5 (by simpa using hb)
  · exact absurd hk (Nat.not_lt.2 (Nat.le_add_left 5 k))

end LeafKf
