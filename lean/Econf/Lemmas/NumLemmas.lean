import Econf.Lemmas.ListLemmas
import Econf.Numeric

/-! Helper lemmas and definitions for the numeric properties (C08, C09): digit spelling, the
    literal grammar of DESIGN.md 5.7, and the scanner on literals and on printed numbers. -/

namespace Econf

def spellDigit (d : Nat) (upper : Bool) : Byte :=
  if d < 10 then UInt8.ofNat (0x30 + d) else if upper then UInt8.ofNat (0x41 + d - 10) else UInt8.ofNat (0x61 + d - 10)

theorem digitVal_spell : ∀ d : Fin 16, ∀ up : Bool, digitVal (spellDigit d.val up) = some d.val := by decide +kernel

theorem spell_facts : ∀ d : Fin 16, ∀ up : Bool,
    isSpace (spellDigit d.val up) = false ∧ (spellDigit d.val up == 0x2D) = false ∧ (spellDigit d.val up == 0x2B) = false ∧
    isX (spellDigit d.val up) = false ∧ ((spellDigit d.val up == 0x30) = decide (d.val = 0)) := by decide +kernel

theorem digitIn_spell (base d : Nat) (up : Bool) (hd : d < base) (hb : base ≤ 16) :
    digitIn base (spellDigit d up) = some d := by
  have := digitVal_spell ⟨d, by omega⟩ up
  simp [digitIn, this, hd]

def ofDigits (base : Nat) (ds : List Nat) (acc : Nat) : Nat := ds.foldl (fun a d => a * base + d) acc

theorem readDigits_spelled (base : Nat) (hb : base ≤ 16) (ds : List (Nat × Bool)) (hds : ∀ p ∈ ds, p.1 < base)
    (rest : Str) (acc n : Nat) :
    readDigits base (ds.map (fun p => spellDigit p.1 p.2) ++ rest) acc n =
      readDigits base rest (ofDigits base (ds.map (·.1)) acc) (n + ds.length) := by
  induction ds generalizing acc n with
  | nil => simp [ofDigits]
  | cons p ps ih =>
    simp only [List.map_cons, List.cons_append, readDigits]
    rw [digitIn_spell base p.1 p.2 (hds p List.mem_cons_self) hb]
    simp only
    rw [ih (fun q hq => hds q (List.mem_cons_of_mem _ hq))]
    simp [ofDigits, Nat.add_assoc, Nat.add_comm 1]

/-! ### integer literals (DESIGN.md 5.7) -/

inductive Sign where
  | none | plus | minus
  deriving DecidableEq

/-- digits carry their spelling case (relevant for hexadecimal letters only) -/
abbrev Digits := List (Nat × Bool)

inductive Body where
  | dec (d1 : Nat × Bool) (ds : Digits)     -- first digit 1..9
  | oct (ds : Digits)                        -- `0` followed by octal digits
  | hex (upX : Bool) (d1 : Nat × Bool) (ds : Digits)   -- `0x` / `0X` and at least one hex digit

structure Lit where
  sign : Sign
  body : Body

def Body.WF : Body → Prop
  | .dec d1 ds => 1 ≤ d1.1 ∧ d1.1 < 10 ∧ ∀ p ∈ ds, p.1 < 10
  | .oct ds => ∀ p ∈ ds, p.1 < 8
  | .hex _ d1 ds => d1.1 < 16 ∧ ∀ p ∈ ds, p.1 < 16

def spellAll (ds : Digits) : Str := ds.map (fun p => spellDigit p.1 p.2)

def Body.render : Body → Str
  | .dec d1 ds => spellAll (d1 :: ds)
  | .oct ds => 0x30 :: spellAll ds
  | .hex upX d1 ds => 0x30 :: (if upX then 0x58 else 0x78) :: spellAll (d1 :: ds)

def Body.mag : Body → Nat
  | .dec d1 ds => ofDigits 10 ((d1 :: ds).map (·.1)) 0
  | .oct ds => ofDigits 8 (ds.map (·.1)) 0
  | .hex _ d1 ds => ofDigits 16 ((d1 :: ds).map (·.1)) 0

def Lit.render (l : Lit) : Str :=
  (match l.sign with
   | .none => []
   | .plus => [0x2B]
   | .minus => [0x2D]) ++ l.body.render

def Lit.val (l : Lit) : Int := if l.sign = .minus then -(l.body.mag : Int) else (l.body.mag : Int)

theorem readDigits_all (base : Nat) (hb : base ≤ 16) (ds : Digits) (hds : ∀ p ∈ ds, p.1 < base) (acc n : Nat) :
    readDigits base (spellAll ds) acc n = (ofDigits base (ds.map (·.1)) acc, n + ds.length) := by
  have := readDigits_spelled base hb ds hds [] acc n
  simp only [List.append_nil] at this
  rw [spellAll, this]; rfl

theorem strtoBody_dec (c : Byte) (r : Str) (hc : (c == 0x30) = false) :
    strtoBody (c :: r) = ((readDigits 10 (c :: r) 0 0).1, (readDigits 10 (c :: r) 0 0).2 != 0) := by
  simp only [strtoBody, hc, Bool.false_eq_true, if_false]

theorem strtoBody_hex (x h : Byte) (r : Str) (hx : isX x = true) (hh : (digitIn 16 h).isSome = true) :
    strtoBody (0x30 :: x :: h :: r) = ((readDigits 16 (h :: r) 0 0).1, true) := by
  simp only [strtoBody, beq_self_eq_true, if_true, hx, hh, Bool.and_self]

/-- a leading `0` not followed by `x`/`X`: octal -/
theorem strtoBody_oct (r : Str) (hr : ∀ x ∈ r.head?, isX x = false) :
    strtoBody (0x30 :: r) = ((readDigits 8 r 0 0).1, true) := by
  cases r with
  | nil => rfl
  | cons x r1 =>
    cases r1 with
    | nil => rfl
    | cons h r2 => simp only [strtoBody, beq_self_eq_true, if_true, hr x rfl, Bool.false_and, Bool.false_eq_true, if_false]

theorem strtoBody_render (b : Body) (h : b.WF) : strtoBody b.render = (b.mag, true) := by
  cases b with
  | dec d1 ds =>
    obtain ⟨h1, h2, h3⟩ := h
    have hf := spell_facts ⟨d1.1, by omega⟩ d1.2
    have hne : (spellDigit d1.1 d1.2 == 0x30) = false := by
      rw [hf.2.2.2.2]
      exact decide_eq_false (Nat.ne_of_gt h1)
    have hall : ∀ p ∈ d1 :: ds, p.1 < 10 := by
      intro p hp
      rcases List.mem_cons.mp hp with rfl | hp
      · exact h2
      · exact h3 p hp
    have hrd := readDigits_all 10 (by omega) (d1 :: ds) hall 0 0
    rw [spellAll, List.map_cons] at hrd
    rw [Body.render, spellAll, List.map_cons, strtoBody_dec _ _ hne, hrd]
    rfl
  | oct ds =>
    rw [Body.render, strtoBody_oct, readDigits_all 8 (by omega) ds h 0 0]
    · rfl
    · cases ds with
      | nil => exact fun _ hx => nomatch hx
      | cons a as =>
        intro x hx
        cases hx
        exact (spell_facts ⟨a.1, by have := h a List.mem_cons_self; omega⟩ a.2).2.2.2.1
  | hex upX d1 ds =>
    obtain ⟨h1, h2⟩ := h
    have hall : ∀ p ∈ d1 :: ds, p.1 < 16 := by
      intro p hp
      rcases List.mem_cons.mp hp with rfl | hp
      · exact h1
      · exact h2 p hp
    have hx : isX (if upX then 0x58 else 0x78) = true := by cases upX <;> rfl
    have hd : (digitIn 16 (spellDigit d1.1 d1.2)).isSome = true := by
      rw [digitIn_spell 16 d1.1 d1.2 h1 (by omega)]
      rfl
    have hrd := readDigits_all 16 (by omega) (d1 :: ds) hall 0 0
    rw [spellAll, List.map_cons] at hrd
    rw [Body.render, spellAll, List.map_cons, strtoBody_hex _ _ _ hx hd, hrd]
    rfl

theorem strtoCore_minus (s : Str) : strtoCore (0x2D :: s) = ⟨true, (strtoBody s).1, (strtoBody s).2⟩ := rfl

theorem strtoCore_plus (s : Str) : strtoCore (0x2B :: s) = ⟨false, (strtoBody s).1, (strtoBody s).2⟩ := rfl

theorem strtoCore_unsigned (c : Byte) (r : Str) (hs : isSpace c = false) (hm : (c == 0x2D) = false)
    (hp : (c == 0x2B) = false) : strtoCore (c :: r) = ⟨false, (strtoBody (c :: r)).1, (strtoBody (c :: r)).2⟩ := by
  simp only [strtoCore, List.dropWhile_cons, hs, Bool.false_eq_true, if_false, splitSign, hm, hp]

theorem body_head (b : Body) (h : b.WF) : ∃ c r, b.render = c :: r ∧ isSpace c = false ∧ (c == 0x2D) = false ∧ (c == 0x2B) = false := by
  cases b with
  | dec d1 ds =>
    have hf := spell_facts ⟨d1.1, by have := h.2.1; omega⟩ d1.2
    exact ⟨_, _, rfl, hf.1, hf.2.1, hf.2.2.1⟩
  | oct ds => exact ⟨0x30, _, rfl, by decide, by decide, by decide⟩
  | hex upX d1 ds => exact ⟨0x30, _, rfl, by decide, by decide, by decide⟩

/-- the scanner reads a literal as its sign and magnitude, for literals of any length -/
theorem strtoCore_render (l : Lit) (h : l.body.WF) :
    strtoCore l.render = ⟨decide (l.sign = .minus), l.body.mag, true⟩ := by
  obtain ⟨c, r, hr, hs, hm, hp⟩ := body_head l.body h
  have hb := strtoBody_render l.body h
  unfold Lit.render
  cases hsg : l.sign with
  | none =>
    rw [List.nil_append, hr, strtoCore_unsigned c r hs hm hp, ← hr, hb]
    rfl
  | plus =>
    rw [List.cons_append, List.nil_append, strtoCore_plus, hb]
    rfl
  | minus =>
    rw [List.cons_append, List.nil_append, strtoCore_minus, hb]
    rfl

theorem digitIn10_digitChar (d : Nat) (h : d < 10) : digitIn 10 (digitChar d) = some d := by
  have : ∀ d : Fin 10, digitIn 10 (digitChar d.val) = some d.val := by decide
  exact this ⟨d, h⟩

theorem digitChar_facts : ∀ d : Fin 10, isSpace (digitChar d.val) = false ∧ (digitChar d.val == 0x2D) = false ∧
    (digitChar d.val == 0x2B) = false ∧ ((digitChar d.val == 0x30) = decide (d.val = 0)) := by decide +kernel

theorem div10_lt {n f : Nat} (hf : n < f + 1) (h10 : ¬ n < 10) : n / 10 < f :=
  Nat.div_lt_of_lt_mul (by omega)

theorem shift_digit (x n : Nat) : (x + n / 10) * 10 + n % 10 = x * 10 + n := by
  rw [Nat.add_mul, Nat.add_assoc, Nat.mul_comm (n / 10), Nat.div_add_mod]

/-- reading back what `toDigitsAux` prints: the digits of `n` extend the accumulator -/
theorem readDigits_toDigitsAux (fuel n : Nat) (hf : n < fuel) (acc : Str) :
    ∃ k, 1 ≤ k ∧ ∀ A C, readDigits 10 (toDigitsAux fuel n acc) A C = readDigits 10 acc (A * 10 ^ k + n) (C + k) := by
  induction fuel generalizing n acc with
  | zero => omega
  | succ f ih =>
    unfold toDigitsAux
    by_cases h10 : n < 10
    · refine ⟨1, by omega, ?_⟩
      intro A C
      simp only [h10, if_true, readDigits, digitIn10_digitChar n h10, Nat.pow_one]
    · simp only [h10, if_false]
      obtain ⟨k, hk, hrd⟩ := ih (n / 10) (div10_lt hf h10) (digitChar (n % 10) :: acc)
      refine ⟨k + 1, by omega, ?_⟩
      intro A C
      rw [hrd]
      simp only [readDigits, digitIn10_digitChar (n % 10) (Nat.mod_lt _ (by omega))]
      rw [shift_digit, Nat.pow_succ, Nat.mul_assoc, Nat.add_assoc]

theorem head_toDigitsAux (fuel n : Nat) (hf : n < fuel) (hn : 0 < n) (acc : Str) :
    ∃ d r, 1 ≤ d ∧ d < 10 ∧ toDigitsAux fuel n acc = digitChar d :: r := by
  induction fuel generalizing n acc with
  | zero => omega
  | succ f ih =>
    unfold toDigitsAux
    by_cases h10 : n < 10
    · exact ⟨n, acc, hn, h10, by simp [h10]⟩
    · simp only [h10, if_false]
      exact ih (n / 10) (div10_lt hf h10) (Nat.div_pos (Nat.le_of_not_lt h10) (by decide)) _

/-- `strtol` on what `%u` prints -/
theorem strtoBody_showNat (n : Nat) : strtoBody (showNat n) = (n, true) := by
  unfold showNat
  by_cases hn : n = 0
  · subst hn; decide
  · obtain ⟨d, r, hd1, hd2, hhead⟩ := head_toDigitsAux (n + 1) n (by omega) (by omega) []
    obtain ⟨k, hk, hrd⟩ := readDigits_toDigitsAux (n + 1) n (by omega) []
    have hne : (digitChar d == 0x30) = false := by
      rw [(digitChar_facts ⟨d, hd2⟩).2.2.2]
      exact decide_eq_false (Nat.ne_of_gt hd1)
    have := hrd 0 0
    rw [hhead] at this ⊢
    rw [strtoBody_dec _ _ hne, this]
    simp only [readDigits, Nat.zero_mul, Nat.zero_add, Prod.mk.injEq, true_and, bne_iff_ne]
    omega

theorem strtoCore_showNat (n : Nat) : strtoCore (showNat n) = ⟨false, n, true⟩ := by
  have hb := strtoBody_showNat n
  by_cases hn : n = 0
  · subst hn; decide
  · unfold showNat at hb ⊢
    obtain ⟨d, r, hd1, hd2, hhead⟩ := head_toDigitsAux (n + 1) n (by omega) (by omega) []
    have hf := digitChar_facts ⟨d, hd2⟩
    rw [hhead, strtoCore_unsigned _ r hf.1 hf.2.1 hf.2.2.1, ← hhead, hb]

theorem strtoCore_showInt (i : Int) : strtoCore (showInt i) = ⟨decide (i < 0), i.natAbs, true⟩ := by
  unfold showInt
  by_cases hi : i < 0
  · rw [if_pos hi, strtoCore_minus, strtoBody_showNat, decide_eq_true hi]
  · rw [if_neg hi, strtoCore_showNat, decide_eq_false hi]

/-- the signed getter on a text the scanner converts to `v`, when the libc range `[llo, lhi]`
    contains the range `[lo, hi]` of the type -/
theorem getSigned_eq (llo lhi lo hi : Int) (h1 : llo ≤ lo) (h2 : hi ≤ lhi) (s : Str) (v : Int)
    (hc : (strtoCore s).converted = true) (hv : strtoVal (strtoCore s) = v) :
    getSigned llo lhi lo hi s = if lo ≤ v ∧ v ≤ hi then .ok v else .error .valueConversionError := by
  unfold getSigned
  simp only [hv, hc, Bool.not_true, Bool.false_eq_true, if_false, Bool.or_eq_true, decide_eq_true_eq]
  by_cases h : lo ≤ v ∧ v ≤ hi
  · rw [if_pos h, if_neg (by omega), if_neg (by omega)]
  · rw [if_neg h]
    split
    · rfl
    · rw [if_pos (by omega)]

end Econf
