import Econf.Grammar
import Econf.Lemmas.ParserLemmas

/-! Helper lemmas for the grammar proofs (C02 and the properties built on it): what the parser sees of
    a rendered line, the trailing-comment scan on lines of the grammar, entry lines (key split, value, continuation
    lines), each item and a whole document parsed (`parse_item`, `parse_doc`), and `splitLines` on rendered text. -/


namespace Econf

theorem isBlank_isSpace {c : Byte} (h : isBlank c = true) : isSpace c = true := by
  unfold isBlank at h; simp at h; exact h.1
theorem isBlank_isText {c : Byte} (h : isBlank c = true) : isText c = true := by
  unfold isBlank isText isSpace at *
  simp only [Bool.and_eq_true, Bool.or_eq_true, beq_iff_eq, bne_iff_ne, ne_eq] at h ⊢
  refine ⟨?_, h.2⟩
  intro h0; subst h0; simp at h
theorem not_isSpace_NUL : isSpace 0 = false := by decide

theorem texts_append {a b : Str} (ha : texts a) (hb : texts b) : texts (a ++ b) := by
  intro c hc
  rcases List.mem_append.mp hc with hc | hc
  · exact ha c hc
  · exact hb c hc

theorem texts_cons {c : Byte} {a : Str} (hc : isText c = true) (ha : texts a) : texts (c :: a) := by
  intro x hx
  rcases List.mem_cons.mp hx with rfl | hx
  · exact hc
  · exact ha x hx

theorem texts_blanks {a : Str} (h : blanks a) : texts a := fun c hc => isBlank_isText (h c hc)

theorem text_ne_NL {t : Str} (h : texts t) : NL ∉ t := by
  intro hin
  have := h NL hin
  simp [isText] at this

theorem comment_not_blanks (cfg : Cfg) (hw : CfgWF cfg) {k : Byte} (hk : k ∈ cfg.comment) {ws : Str} (hws : blanks ws) : k ∉ ws := by
  intro hin
  have := isBlank_isSpace (hws k hin)
  rw [hw.kb k hk] at this; cases this

theorem cstr_of_text (l : Str) (h : texts l) (rest : Str) : cstr (l ++ rest) = l ++ cstr rest := by
  unfold cstr
  rw [List.takeWhile_append_of_pos]
  intro x hx
  have := h x hx
  unfold isText at this; simp at this ⊢; exact this.1

theorem cstr_texts (t : Str) (h : texts t) : cstr t = t := by
  have := cstr_of_text t h []
  rwa [List.append_nil, show cstr [] = [] from rfl, List.append_nil] at this

theorem cstr_line (l : Str) (h : texts l) : cstr (l ++ [NL]) = l ++ [NL] := by
  rw [cstr_of_text l h]; rfl

theorem dropWhile_of_head {α} (p : α → Bool) (l : List α) (h : ∀ c, l.head? = some c → p c = false) : l.dropWhile p = l := by
  cases l with
  | nil => rfl
  | cons a as => exact dropWhile_id_of_head p a as (h a rfl)

theorem lineBody_render (indent body : Str) (hi : blanks indent) (hb : texts body)
    (hhead : ∀ c, body.head? = some c → isSpace c = false) :
    lineBody (indent ++ body ++ [NL]) = body := by
  rw [lineBody_eq, cstr_line _ (texts_append (texts_blanks hi) hb), chomp_snoc,
    List.dropWhile_append_of_pos (fun x hx => isBlank_isSpace (hi x hx)), dropWhile_of_head _ _ hhead]

theorem lastIdx_append (c : Byte) (a b : Str) :
    lastIdx c (a ++ b) = match lastIdx c b with
      | some i => some (a.length + i)
      | none => lastIdx c a := by
  induction a with
  | nil => cases h : lastIdx c b <;> simp [h, lastIdx]
  | cons x xs ih =>
    simp only [List.cons_append, lastIdx, ih]
    cases hb : lastIdx c b with
    | some i => simp; omega
    | none => rfl

theorem lastIdx_lt (c : Byte) (a : Str) (i : Nat) (h : lastIdx c a = some i) : i < a.length := by
  induction a generalizing i with
  | nil => simp [lastIdx] at h
  | cons x xs ih =>
    simp only [lastIdx] at h
    cases hx : lastIdx c xs with
    | some j =>
      rw [hx] at h; simp at h; subst h
      have := ih j hx; simp; omega
    | none =>
      rw [hx] at h
      by_cases hxc : (x == c) = true
      · rw [if_pos hxc] at h; simp at h; subst h; simp
      · rw [if_neg hxc] at h; cases h

theorem lastIdx_trailing (c : Byte) (body text : Str) (h : c ∉ text) : lastIdx c (body ++ c :: text) = some body.length := by
  rw [lastIdx_append]; simp [lastIdx, lastIdx_none_of_not_mem c text h]

theorem lastIdx_before (q : Byte) (body rest : Str) (h : q ∉ rest) : lastIdx q (body ++ rest) = lastIdx q body := by
  rw [lastIdx_append, lastIdx_none_of_not_mem q rest h]

theorem scanOne_trailing (c : Byte) (body text : Str) (ca : Option Str) (hc : c ∉ text) (hq : QUOTE ∉ text) (hcq : c ≠ QUOTE) :
    scanOne false c (body ++ c :: text) ca = (body, appendComment ca text) := by
  unfold scanOne
  rw [lastIdx_trailing c body text hc]
  simp only [Bool.false_eq_true, if_false]
  have hqr : QUOTE ∉ c :: text := by
    intro h; rcases List.mem_cons.mp h with h | h
    · exact hcq h.symm
    · exact hq h
  rw [lastIdx_before QUOTE body (c :: text) hqr]
  have htake : (body ++ c :: text).take body.length = body := by simp
  have hdrop : (body ++ c :: text).drop (body.length + 1) = text := by
    rw [show body ++ c :: text = (body ++ [c]) ++ text by simp]
    rw [show body.length + 1 = (body ++ [c]).length by simp]
    simp
  cases hl : lastIdx QUOTE body with
  | none => simp [htake, hdrop]
  | some lq =>
    have := lastIdx_lt _ _ _ hl
    simp [this, htake, hdrop]

/-- a line is safe for a comment character `k`: `k` does not occur, or only between a pair of
    quotes the second of which is the last quote of the line -/
def SafeFor (k : Byte) (l : Str) : Prop :=
  k ∉ l ∨ ∃ pre q post, l = pre ++ QUOTE :: q ++ QUOTE :: post ∧ k ∉ pre ∧ k ∉ post ∧ QUOTE ∉ post

theorem lastIdx_cons_ne (c x : Byte) (xs : Str) (h : x ≠ c) : lastIdx c (x :: xs) = (lastIdx c xs).map (· + 1) := by
  simp only [lastIdx]
  cases lastIdx c xs with
  | none => simp only [beq_false_of_ne h, Bool.false_eq_true, if_false, Option.map_none]
  | some i => rfl

theorem scanOne_safe (k : Byte) (l : Str) (ca : Option Str) (h : SafeFor k l) (hkq : k ≠ QUOTE) : scanOne false k l ca = (l, ca) := by
  unfold scanOne
  rcases h with h | ⟨pre, q, post, rfl, hpre, hpost, hqpost⟩
  · rw [lastIdx_none_of_not_mem k l h]
  · -- `k` can only be inside `q`, before the last quote
    have hkp : k ∉ QUOTE :: post := by
      intro hh; rcases List.mem_cons.mp hh with hh | hh
      · exact hkq hh
      · exact hpost hh
    have hk : lastIdx k (pre ++ QUOTE :: q ++ QUOTE :: post) = (lastIdx k q).map (pre.length + 1 + ·) := by
      rw [lastIdx_before k _ _ hkp, lastIdx_append, lastIdx_cons_ne k QUOTE q (fun hh => hkq hh.symm)]
      cases lastIdx k q with
      | none => exact lastIdx_none_of_not_mem k pre hpre
      | some j =>
        show some (pre.length + (j + 1)) = some (pre.length + 1 + j)
        rw [Nat.add_comm j 1, Nat.add_assoc]
    have hquote : lastIdx QUOTE (pre ++ QUOTE :: q ++ QUOTE :: post) = some (pre.length + 1 + q.length) := by
      rw [lastIdx_trailing QUOTE _ post hqpost, List.length_append, List.length_cons, Nat.add_assoc, Nat.add_comm 1]
    rw [hk, hquote]
    cases hq : lastIdx k q with
    | none => rfl
    | some i =>
      have hnot : ¬ (pre.length + 1 + q.length < pre.length + 1 + i) := by
        have := lastIdx_lt _ _ _ hq
        omega
      simp only [Option.map_some, Bool.false_eq_true, if_false, hnot]


theorem scanComments_cons (python : Bool) (k : Byte) (ks name : Str) (ca : Option Str) :
    scanComments python (k :: ks) name ca = scanComments python ks (scanOne python k name ca).1 (scanOne python k name ca).2 := by
  simp [scanComments, List.foldl_cons]

theorem safeFor_extend (k : Byte) (b rest : Str) (h : SafeFor k b) (hk : k ∉ rest) (hq : QUOTE ∉ rest) : SafeFor k (b ++ rest) := by
  rcases h with h | ⟨pre, q, post, rfl, hpre, hpost, hqpost⟩
  · left; simp [h, hk]
  · right
    refine ⟨pre, q, post ++ rest, by simp, hpre, ?_, ?_⟩
    · simp [hpost, hk]
    · simp [hqpost, hq]

theorem scanComments_safe (ks : Str) (l : Str) (ca : Option Str) (h : ∀ k ∈ ks, SafeFor k l ∧ k ≠ QUOTE) :
    scanComments false ks l ca = (l, ca) := by
  induction ks with
  | nil => rfl
  | cons k ks ih =>
    rw [scanComments_cons, scanOne_safe k l ca (h k List.mem_cons_self).1 (h k List.mem_cons_self).2]
    exact ih (fun x hx => h x (List.mem_cons_of_mem _ hx))

theorem scanComments_trailing (ks : Str) (body text : Str) (c : Byte) (ca : Option Str)
    (hc : c ∈ ks) (hsafe : ∀ k ∈ ks, SafeFor k body ∧ k ≠ QUOTE ∧ k ∉ text) (hq : QUOTE ∉ text) :
    scanComments false ks (body ++ c :: text) ca = (body, appendComment ca text) := by
  induction ks with
  | nil => simp at hc
  | cons k ks ih =>
    rw [scanComments_cons]
    have hk := hsafe k List.mem_cons_self
    by_cases hkc : k = c
    · subst hkc
      rw [scanOne_trailing k body text ca hk.2.2 hq hk.2.1]
      exact scanComments_safe ks body _ (fun x hx => ⟨(hsafe x (List.mem_cons_of_mem _ hx)).1, (hsafe x (List.mem_cons_of_mem _ hx)).2.1⟩)
    · have hcks : c ∈ ks := by
        rcases List.mem_cons.mp hc with h | h
        · exact absurd h.symm hkc
        · exact h
      have hkrest : k ∉ c :: text := by
        intro hh; rcases List.mem_cons.mp hh with hh | hh
        · exact hkc hh
        · exact hk.2.2 hh
      have hqrest : QUOTE ∉ c :: text := by
        intro hh; rcases List.mem_cons.mp hh with hh | hh
        · exact (hsafe c hc).2.1 hh.symm
        · exact hq hh
      rw [scanOne_safe k (body ++ c :: text) ca (safeFor_extend k body _ hk.1 hkrest hqrest) hk.2.1]
      exact ih hcks (fun x hx => hsafe x (List.mem_cons_of_mem _ hx))


theorem parse_blank (cfg : Cfg) (st : PState) (ws : Str) (h : blanks ws) :
    parseLines cfg st (Item.blank ws).lines = .ok (expItem st (.blank ws)) := by
  have hb : lineBody (ws ++ [] ++ [NL]) = [] := lineBody_render ws [] h (fun _ hc => nomatch hc) (fun _ hc => nomatch hc)
  rw [List.append_nil] at hb
  exact parseLines_single _ _ _ _ (parseLine_blank cfg st _ hb)

theorem text_of_comment_char (cfg : Cfg) (hw : CfgWF cfg) (c : Byte) (hc : c ∈ cfg.comment) : isText c = true := by
  have := hw.kb c hc
  unfold isText; simp only [Bool.and_eq_true, bne_iff_ne, ne_eq]
  constructor
  · intro h0; subst h0; exact hw.k0 hc
  · intro hn; subst hn; simp [isSpace, NL] at this

theorem parse_comment (cfg : Cfg) (st : PState) (ind : Str) (c : Byte) (text : Str)
    (hw : CfgWF cfg) (hi : blanks ind) (hc : c ∈ cfg.comment) (ht : texts text) :
    parseLines cfg st (Item.comment ind c text).lines = .ok (expItem st (.comment ind c text)) := by
  have hb : lineBody (ind ++ (c :: text) ++ [NL]) = c :: text :=
    lineBody_render ind (c :: text) hi (texts_cons (text_of_comment_char cfg hw c hc) ht)
      (fun x hx => by cases hx; exact hw.kb _ hc)
  exact parseLines_single _ _ _ _ (parseLine_comment cfg st _ c text hb hc)

theorem trail_texts (cfg : Cfg) (hw : CfgWF cfg) (tc : Option TrailC) (h : TrailC.WF cfg tc) : texts (TrailC.render tc) := by
  cases tc with
  | none => exact fun _ hc => nomatch hc
  | some t => exact texts_cons (text_of_comment_char cfg hw _ h.1) h.2.1

theorem scan_line (cfg : Cfg) (hw : CfgWF cfg) (body : Str) (tc : Option TrailC) (ca : Option Str)
    (hsafe : ∀ k ∈ cfg.comment, SafeFor k body) (htc : TrailC.WF cfg tc) :
    scanComments cfg.python cfg.comment (body ++ TrailC.render tc) ca =
      (body, caWith ca tc) := by
  rw [hw.noPython]
  have hkq : ∀ k ∈ cfg.comment, k ≠ QUOTE := fun k hk hh => hw.kq (hh ▸ hk)
  cases tc with
  | none =>
    simp only [TrailC.render, List.append_nil, caWith]
    exact scanComments_safe _ _ _ (fun k hk => ⟨hsafe k hk, hkq k hk⟩)
  | some t =>
    simp only [TrailC.render, caWith]
    exact scanComments_trailing _ _ _ _ _ htc.1 (fun k hk => ⟨hsafe k hk, hkq k hk, htc.2.2.1 k hk⟩) htc.2.2.2

/-- a rendered line `ind ++ (body ++ trailing comment) ++ "\n"` whose `body` starts with a byte that is neither a
    blank nor a comment character: the trailing comment is recorded, `parseContent` sees `body` -/
theorem parseLine_render (cfg : Cfg) (hw : CfgWF cfg) (st : PState) (ind body : Str) (tc : Option TrailC) (c : Byte)
    (hi : blanks ind) (hb : texts body) (h0 : body.head? = some c) (hsp : isSpace c = false) (hc : c ∉ cfg.comment)
    (hsafe : ∀ k ∈ cfg.comment, SafeFor k body) (htc : TrailC.WF cfg tc) :
    parseLine cfg st (ind ++ (body ++ TrailC.render tc) ++ [NL]) =
      parseContent cfg { st with line := st.line + 1, ca := caWith st.ca tc }
        (ind ++ (body ++ TrailC.render tc) ++ [NL]) body := by
  have h0' : (body ++ TrailC.render tc).head? = some c := by rw [List.head?_append, h0]; rfl
  have htx : texts (body ++ TrailC.render tc) := texts_append hb (trail_texts cfg hw tc htc)
  rw [parseLine_content cfg st _ _ body c (caWith st.ca tc)
    (lineBody_render ind _ hi htx (fun x hx => by rw [h0'] at hx; cases hx; exact hsp)) h0' hc
    (scan_line cfg hw body tc st.ca hsafe htc), cstr_line _ (texts_append (texts_blanks hi) htx)]

theorem parseSection_name (name trail : Str) (hne : name ≠ []) (htr : blanks trail) :
    parseSection (name ++ RBR :: trail) = .ok name := by
  unfold parseSection
  have hdl : dropLastWhile isSpace (name ++ RBR :: trail) = name ++ [RBR] := by
    rw [show name ++ RBR :: trail = (name ++ [RBR]) ++ trail by simp]
    rw [dropLastWhile_append_all _ _ _ (fun x hx => isBlank_isSpace (htr x hx))]
    exact dropLastWhile_append_last _ _ _ (by decide)
  have hempty : name.isEmpty = false := by cases name <;> simp_all
  simp [hdl, hempty]

theorem parse_sect (cfg : Cfg) (st : PState) (ind name trail : Str) (tc : Option TrailC)
    (hw : CfgWF cfg) (hi : blanks ind) (htr : blanks trail) (hne : name ≠ [])
    (hn : ∀ c ∈ name, isText c = true ∧ c ∉ cfg.comment) (htc : TrailC.WF cfg tc) :
    parseLines cfg st (Item.sect ind name trail tc).lines = .ok (expItem st (.sect ind name trail tc)) := by
  have hbody : texts (LBR :: name ++ RBR :: trail) :=
    texts_append (texts_cons (by decide) (fun c hc => (hn c hc).1)) (texts_cons (by decide) (texts_blanks htr))
  have hsafe : ∀ k ∈ cfg.comment, SafeFor k (LBR :: name ++ RBR :: trail) := by
    intro k hk
    left
    simp only [List.cons_append, List.mem_cons, List.mem_append, not_or]
    exact ⟨fun h => hw.klbr (h ▸ hk), fun h => (hn k h).2 hk, fun h => hw.krbr (h ▸ hk), comment_not_blanks cfg hw hk htr⟩
  apply parseLines_single
  rw [parseLine_render cfg hw st ind _ tc LBR hi hbody rfl (by decide) hw.klbr hsafe htc]
  exact parseContent_sect _ _ _ _ _ (parseSection_name name trail hne htr)

theorem dropLastWhile_text_blanks (cs tws : Str) (htws : blanks tws) (hlast : ∀ c, cs.getLast? = some c → isSpace c = false) :
    dropLastWhile isSpace (cs ++ tws) = cs := by
  rw [dropLastWhile_append_all _ _ _ (fun x hx => isBlank_isSpace (htws x hx))]
  exact dropLastWhile_of_getLast? _ _ hlast

theorem dropWhile_blanks (ws rest : Str) (h : blanks ws) : (ws ++ rest).dropWhile isSpace = rest.dropWhile isSpace :=
  List.dropWhile_append_of_pos (fun x hx => isBlank_isSpace (h x hx))

theorem dropWhile_all_blanks (ws : Str) (h : blanks ws) : ws.dropWhile isSpace = [] :=
  dropWhile_nil_of_all _ _ (fun x hx => isBlank_isSpace (h x hx))

theorem valueOf_plain (c : Byte) (cs tws : Str) (htws : blanks tws) (hq : c ≠ QUOTE)
    (hlast : ∀ x, (c :: cs).getLast? = some x → isSpace x = false) :
    valueOf ((c :: cs) ++ tws) = (some (c :: cs), false) := by
  have hcq : (c == QUOTE) = false := by simpa using hq
  simp only [List.cons_append, valueOf, hcq, Bool.false_eq_true, if_false]
  rw [dropLastWhile_text_blanks cs tws htws]
  intro x hx
  apply hlast x
  cases cs with
  | nil => simp at hx
  | cons y ys => simpa [List.getLast?_cons_cons] using hx

theorem valueOf_quoted (q tws : Str) (htws : blanks tws) :
    valueOf ((QUOTE :: q ++ [QUOTE]) ++ tws) = (some q, true) := by
  simp only [List.cons_append, valueOf, beq_self_eq_true, if_true]
  cases q with
  | nil =>
    simp only [List.nil_append, List.cons_append]
    have : dropLastWhile isSpace tws = [] := by
      have := dropLastWhile_text_blanks [] tws htws (by simp)
      simpa using this
    simp [this]
  | cons k ks =>
    simp only [List.cons_append]
    have hks : dropLastWhile isSpace (ks ++ [QUOTE] ++ tws) = ks ++ [QUOTE] := by
      exact dropLastWhile_text_blanks (ks ++ [QUOTE]) tws htws (by intro c hc; simp at hc; subst hc; decide)
    rw [hks]
    have hcons : k :: (ks ++ [QUOTE]) = (k :: ks) ++ [QUOTE] := by simp
    rw [hcons]
    have hl : ((k :: ks) ++ [QUOTE]).getLast? = some QUOTE := List.getLast?_concat
    simp only [hl, beq_self_eq_true, if_true, List.dropLast_concat]

theorem valueOf_nil : valueOf [] = (some [], false) := rfl

/-- the first line of an entry without its trailing comment -/
def EntryI.core (e : EntryI) : Str := e.key ++ e.ws1 ++ e.d :: e.ws2 ++ e.value.render ++ e.tws

theorem EntryI.body_eq (e : EntryI) : e.body = e.core ++ TrailC.render e.tc := by
  simp [EntryI.body, EntryI.core]

theorem space_not_delim (delim : Str) (hnb : hasWsp delim = false) (c : Byte) (h : isSpace c = true) :
    delim.contains c = false := by
  cases hd : delim.contains c
  · rfl
  · unfold hasWsp at hnb
    exact absurd h (List.any_eq_false.mp hnb c (by simpa using hd))

theorem space_of_delim (delim : Str) (hb : hasNonWsp delim = false) (c : Byte) (h : delim.contains c = true) : isSpace c = true := by
  cases hs : isSpace c
  · unfold hasNonWsp at hb
    have := List.any_eq_false.mp hb c (by simpa using h)
    rw [hs] at this; simp at this
  · rfl

theorem noDelim_false_of_contains (delim : Str) (x : Byte) (hx : delim.contains x = true) (hne : x ≠ NL) :
    noDelim delim = false := by
  cases delim with
  | nil => cases hx
  | cons a as =>
    cases as with
    | nil =>
      have : x = a := by simpa using hx
      simp [noDelim, ← this, hne]
    | cons b bs => simp [noDelim]

theorem noDelim_false (cfg : Cfg) (e : EntryI) (h : e.WF cfg) : noDelim cfg.delim = false := by
  rcases h.dIn with hd | ⟨hm, _⟩
  · have hne : e.d ≠ NL := by
      have := h.dText
      simp only [isText, Bool.and_eq_true, bne_iff_ne, ne_eq] at this
      exact this.2
    exact noDelim_false_of_contains _ _ hd hne
  · -- a mixed set has a delimiter that is no blank
    have hnw : hasNonWsp cfg.delim = true := by
      cases hn : hasNonWsp cfg.delim
      · rw [mixedDelim, hn, Bool.and_false] at hm; cases hm
      · rfl
    obtain ⟨x, hx, hxs⟩ := List.any_eq_true.mp hnw
    exact noDelim_false_of_contains _ x (List.contains_iff_mem.mpr hx) (fun hh => by rw [hh] at hxs; cases hxs)

theorem comment_ne_d (cfg : Cfg) (hw : CfgWF cfg) (e : EntryI) (h : e.WF cfg) (k : Byte) (hk : k ∈ cfg.comment) : k ≠ e.d := by
  intro hh
  rcases h.dIn with hd | ⟨_, hd⟩
  · have := hw.kd k hk
    rw [hh, hd] at this; cases this
  · have := hw.kb k hk
    rw [hh, isBlank_isSpace hd] at this; cases this

theorem core_texts (cfg : Cfg) (e : EntryI) (h : e.WF cfg) : texts e.core := by
  intro c hc
  unfold EntryI.core at hc
  rcases List.mem_append.mp hc with hc | hc
  · rcases List.mem_append.mp hc with hc | hc
    · rcases List.mem_append.mp hc with hc | hc
      · rcases List.mem_append.mp hc with hc | hc
        · exact (h.keyCh c hc).1
        · exact isBlank_isText (h.ws1 c hc)
      · rcases List.mem_cons.mp hc with hc | hc
        · rw [hc]; exact h.dText
        · exact isBlank_isText (h.ws2 c hc)
    · have hv := h.val
      cases hval : e.value with
      | plain v => rw [hval] at hv hc; exact hv.1 c hc
      | quoted q =>
        rw [hval] at hv hc
        simp only [ValSpell.render, List.cons_append, List.mem_cons, List.mem_append, List.mem_nil_iff, or_false] at hc
        rcases hc with hc | hc | hc
        · rw [hc]; decide
        · exact hv c hc
        · rw [hc]; decide
  · exact isBlank_isText (h.tws c hc)

theorem core_safe (cfg : Cfg) (hw : CfgWF cfg) (e : EntryI) (h : e.WF cfg) (k : Byte) (hk : k ∈ cfg.comment) : SafeFor k e.core := by
  have hkb : ∀ ws, blanks ws → k ∉ ws := fun _ hws => comment_not_blanks cfg hw hk hws
  have hkd : k ≠ e.d := comment_ne_d cfg hw e h k hk
  have hkkey : k ∉ e.key := fun hin => (h.keyCh k hin).2.2.2.1 hk
  have hpre : k ∉ e.key ++ e.ws1 ++ e.d :: e.ws2 := by
    simp only [List.mem_append, List.mem_cons, not_or]
    exact ⟨⟨hkkey, hkb _ h.ws1⟩, hkd, hkb _ h.ws2⟩
  have hv := h.val
  unfold EntryI.core
  cases hval : e.value with
  | plain v =>
    rw [hval] at hv
    left
    intro hin
    simp only [ValSpell.render] at hin
    rcases List.mem_append.mp hin with hin | hin
    · rcases List.mem_append.mp hin with hin | hin
      · exact hpre hin
      · exact hv.2.1 k hk hin
    · exact hkb _ h.tws hin
  | quoted q =>
    right
    refine ⟨e.key ++ e.ws1 ++ e.d :: e.ws2, q, e.tws, by simp [ValSpell.render], hpre, hkb _ h.tws, ?_⟩
    intro hin
    have := isBlank_isSpace (h.tws QUOTE hin)
    simp [isSpace, QUOTE] at this


/-- what follows the separator of an entry line -/
def EntryI.rest (e : EntryI) : Str := e.ws2 ++ e.value.render ++ e.tws

theorem EntryI.core_eq (e : EntryI) : e.core = e.key ++ (e.ws1 ++ e.d :: e.rest) := by
  simp [EntryI.core, EntryI.rest]

theorem takeWhile_upto {α} (p : α → Bool) (pre : List α) (x : α) (rest : List α)
    (hall : ∀ c ∈ pre, p c = true) (hx : p x = false) : (pre ++ x :: rest).takeWhile p = pre := by
  rw [List.takeWhile_append_of_pos hall, List.takeWhile_cons, hx]; simp

theorem dropWhile_upto {α} (p : α → Bool) (pre : List α) (x : α) (rest : List α)
    (hall : ∀ c ∈ pre, p c = true) (hx : p x = false) : (pre ++ x :: rest).dropWhile p = x :: rest := by
  rw [List.dropWhile_append_of_pos hall, List.dropWhile_cons, hx]; simp

/-- "delimiter seen" as `read_file` computes it from the byte right behind the key -/
def seenAt (delim : Str) (x : Byte) : Bool :=
  if mixedDelim delim then !isSpace x && delim.contains x else delim.contains x

/-- the byte right behind the key of an entry line -/
def EntryI.sepByte (e : EntryI) : Byte :=
  match e.ws1 with
  | [] => e.d
  | b :: _ => b

/-- what follows that byte -/
def EntryI.data (e : EntryI) : Str :=
  match e.ws1 with
  | [] => e.rest
  | _ :: bs => bs ++ e.d :: e.rest

theorem d_is_sep (cfg : Cfg) (e : EntryI) (h : e.WF cfg) : (isSpace e.d || cfg.delim.contains e.d) = true := by
  rcases h.dIn with hd | ⟨_, hd⟩
  · rw [hd]; simp
  · rw [isBlank_isSpace hd]; simp

theorem splitKey_upto (delim key : Str) (x : Byte) (rest : Str) (hne : key ≠ [])
    (hkey : ∀ c ∈ key, isSpace c = false ∧ delim.contains c = false) (hx : (isSpace x || delim.contains x) = true) :
    splitKey delim (key ++ x :: rest) = (key, seenAt delim x, rest) := by
  have hk : ∀ c ∈ key, (fun c => !(isSpace c || delim.contains c)) c = true := by
    intro c hc
    show (!(isSpace c || delim.contains c)) = true
    rw [(hkey c hc).1, (hkey c hc).2]; rfl
  have hxs : (fun c => !(isSpace c || delim.contains c)) x = false := by
    show (!(isSpace x || delim.contains x)) = false
    rw [hx]; rfl
  obtain ⟨k0, ks, rfl⟩ := List.exists_cons_of_ne_nil hne
  simp only [splitKey, seenAt, takeWhile_upto _ _ _ _ hk hxs, dropWhile_upto _ _ _ _ hk hxs]

theorem splitKey_core (cfg : Cfg) (e : EntryI) (h : e.WF cfg) :
    splitKey cfg.delim e.core = (e.key, seenAt cfg.delim e.sepByte, e.data) := by
  have hk : ∀ c ∈ e.key, isSpace c = false ∧ cfg.delim.contains c = false :=
    fun c hc => ⟨(h.keyCh c hc).2.1, (h.keyCh c hc).2.2.1⟩
  rw [EntryI.core_eq]
  unfold EntryI.sepByte EntryI.data
  cases hws : e.ws1 with
  | nil => exact splitKey_upto _ _ _ _ h.keyNe hk (d_is_sep cfg e h)
  | cons b bs =>
    have hb : isBlank b = true := h.ws1 b (by rw [hws]; exact List.mem_cons_self)
    exact splitKey_upto _ _ _ _ h.keyNe hk (by rw [isBlank_isSpace hb]; rfl)

theorem valueOf_rest (cfg : Cfg) (e : EntryI) (h : e.WF cfg) :
    valueOf (e.rest.dropWhile isSpace) =
      (match e.value with
       | .plain v => (some v, false)
       | .quoted q => (some q, true)) := by
  unfold EntryI.rest
  rw [List.append_assoc, dropWhile_blanks _ _ h.ws2]
  have hv := h.val
  cases hval : e.value with
  | quoted q =>
    have : (ValSpell.render (.quoted q) ++ e.tws).dropWhile isSpace = (QUOTE :: q ++ [QUOTE]) ++ e.tws := by
      simp only [ValSpell.render, List.cons_append]
      rw [List.dropWhile_cons]; simp [isSpace, QUOTE]
    rw [this, valueOf_quoted q e.tws h.tws]
  | plain v =>
    rw [hval] at hv
    cases v with
    | nil =>
      simp only [ValSpell.render, List.nil_append]
      rw [dropWhile_all_blanks _ h.tws]; rfl
    | cons c cs =>
      have hc := hv.2.2.1 c rfl
      have : (ValSpell.render (.plain (c :: cs)) ++ e.tws).dropWhile isSpace = (c :: cs) ++ e.tws := by
        simp only [ValSpell.render, List.cons_append]
        rw [List.dropWhile_cons]; simp [hc.1]
      rw [this, valueOf_plain c cs e.tws h.tws hc.2.1 hv.2.2.2]

/-- the text from the first non-blank byte behind the separator -/
def EntryI.vtext (e : EntryI) : Str := e.rest.dropWhile isSpace

theorem vtext_eq (e : EntryI) (cfg : Cfg) (h : e.WF cfg) : e.vtext = (e.value.render ++ e.tws).dropWhile isSpace := by
  unfold EntryI.vtext EntryI.rest
  rw [List.append_assoc, dropWhile_blanks _ _ h.ws2]

/-- the value read from that text is the expected one, unless the value is the empty plain text
    (then the text is empty) -/
theorem valueOf_vtext (cfg : Cfg) (e : EntryI) (h : e.WF cfg) :
    (e.value ≠ .plain [] ∧ valueOf e.vtext = e.expValue) ∨ (e.value = .plain [] ∧ e.vtext = []) := by
  cases hval : e.value with
  | quoted q =>
    left; refine ⟨(by intro hh; cases hh), ?_⟩
    unfold EntryI.vtext
    rw [valueOf_rest cfg e h, hval]; simp [EntryI.expValue, hval]
  | plain v =>
    cases v with
    | nil =>
      right; refine ⟨rfl, ?_⟩
      rw [vtext_eq e cfg h, hval]
      simp [ValSpell.render, dropWhile_all_blanks _ h.tws]
    | cons c cs =>
      left; refine ⟨(by intro hh; cases hh), ?_⟩
      unfold EntryI.vtext
      rw [valueOf_rest cfg e h, hval]; simp [EntryI.expValue, hval]

theorem vtext_head (cfg : Cfg) (hw : CfgWF cfg) (e : EntryI) (h : e.WF cfg) (hm : mixedDelim cfg.delim = true)
    (c : Byte) (cs : Str) (hv : e.vtext = c :: cs) : cfg.delim.contains c = false := by
  rw [vtext_eq e cfg h] at hv
  have hval := h.val
  cases hvl : e.value with
  | quoted q =>
    rw [hvl] at hv
    simp only [ValSpell.render, List.cons_append, List.dropWhile_cons] at hv
    have : isSpace QUOTE = false := by decide
    simp only [this, Bool.false_eq_true, if_false, List.cons.injEq] at hv
    rw [← hv.1]; exact hw.dquote
  | plain v =>
    rw [hvl] at hv hval
    cases v with
    | nil =>
      simp only [ValSpell.render, List.nil_append] at hv
      rw [dropWhile_all_blanks _ h.tws] at hv; cases hv
    | cons a as =>
      have ha := hval.2.2.1 a rfl
      simp only [ValSpell.render, List.cons_append, List.dropWhile_cons, ha.1, Bool.false_eq_true, if_false, List.cons.injEq] at hv
      rw [← hv.1]; exact ha.2.2 hm

/-! `skipDelim` looks at its text only from the first non-blank byte on; what it does there depends on the
    class of the delimiter set and on whether the delimiter has been seen. -/

theorem skipDelim_congr (delim : Str) (ds : Bool) (a b : Str) (h : a.dropWhile isSpace = b.dropWhile isSpace) :
    skipDelim delim ds a = skipDelim delim ds b := by
  simp only [skipDelim, h]

theorem skipDelim_seen (delim data : Str) : skipDelim delim true data = .ok (data.dropWhile isSpace) := by
  simp only [skipDelim, Bool.not_true, Bool.and_false, Bool.false_eq_true, if_false]

theorem skipDelim_at_delim (delim : Str) (c : Byte) (rest : Str) (hc : delim.contains c = true) (hs : isSpace c = false) :
    skipDelim delim false (c :: rest) = .ok (rest.dropWhile isSpace) := by
  have hd : (c :: rest).dropWhile isSpace = c :: rest := dropWhile_id_of_head _ _ _ hs
  cases hw : hasWsp delim
  · simp only [skipDelim, hw, hd, hc, Bool.not_false, Bool.and_self, if_true]
  · have hm : mixedDelim delim = true := by
      rw [mixedDelim, hw, Bool.true_and]
      exact List.any_eq_true.mpr ⟨c, List.contains_iff_mem.mp hc, by rw [hs]; rfl⟩
    simp only [skipDelim, hw, hm, hd, hc, Bool.not_true, Bool.not_false, Bool.false_and, Bool.and_self, Bool.false_eq_true,
      if_false, if_true]

theorem skipDelim_blank (delim : Str) (ds : Bool) (data : Str) (hw : hasWsp delim = true)
    (hh : mixedDelim delim = true → ∀ c cs, data.dropWhile isSpace = c :: cs → delim.contains c = false) :
    skipDelim delim ds data = .ok (data.dropWhile isSpace) := by
  cases hm : mixedDelim delim
  · simp only [skipDelim, hw, hm, Bool.not_true, Bool.false_and, Bool.false_eq_true, if_false]
  · cases hd : data.dropWhile isSpace with
    | nil => cases ds <;> simp only [skipDelim, hw, hd, Bool.not_true, Bool.false_and, Bool.and_false, Bool.false_eq_true, if_false, ite_self]
    | cons c cs =>
      cases ds <;> simp only [skipDelim, hw, hd, hh hm c cs hd, Bool.not_true, Bool.false_and, Bool.and_false, Bool.false_eq_true, if_false, ite_self]

/-- skipping the separator: whatever the class, the parser arrives at the text of the value -/
theorem skipDelim_core (cfg : Cfg) (hw : CfgWF cfg) (e : EntryI) (h : e.WF cfg) :
    skipDelim cfg.delim (seenAt cfg.delim e.sepByte) e.data = .ok e.vtext := by
  have hhead : mixedDelim cfg.delim = true → ∀ c cs, e.rest.dropWhile isSpace = c :: cs → cfg.delim.contains c = false :=
    fun hm c cs hv => vtext_head cfg hw e h hm c cs hv
  -- a blank separator byte `d` lies in a set with blanks
  have hwsp : isSpace e.d = true → hasWsp cfg.delim = true := by
    intro hd
    rcases h.dIn with hin | ⟨hm, _⟩
    · exact List.any_eq_true.mpr ⟨e.d, List.contains_iff_mem.mp hin, hd⟩
    · rw [mixedDelim, Bool.and_eq_true] at hm; exact hm.1
  -- the text from `d` on
  have hfromd : ∀ ds, ds = false ∨ isSpace e.d = true → skipDelim cfg.delim ds (e.d :: e.rest) = .ok e.vtext := by
    intro ds hds
    cases hd : isSpace e.d
    · rcases hds with rfl | hds
      · rcases h.dIn with hin | ⟨_, hb⟩
        · exact skipDelim_at_delim _ _ _ hin hd
        · rw [isBlank_isSpace hb] at hd; cases hd
      · rw [hd] at hds; cases hds
    · have hdr : (e.d :: e.rest).dropWhile isSpace = e.rest.dropWhile isSpace := by rw [List.dropWhile_cons, if_pos hd]
      rw [skipDelim_blank _ _ _ (hwsp hd) (by rw [hdr]; exact hhead), hdr]; rfl
  unfold EntryI.data EntryI.sepByte
  cases hws : e.ws1 with
  | nil =>
    -- the byte behind the key is `d` itself
    cases hds : seenAt cfg.delim e.d
    · have hm : mixedDelim cfg.delim = true := by
        cases hm : mixedDelim cfg.delim
        · rcases h.dIn with hin | ⟨hm', _⟩
          · rw [seenAt, hm, if_neg Bool.false_ne_true, hin] at hds; cases hds
          · rw [hm] at hm'; cases hm'
        · rfl
      rw [mixedDelim, Bool.and_eq_true] at hm
      exact skipDelim_blank _ _ _ hm.1 hhead
    · exact skipDelim_seen _ _
  | cons b bs =>
    -- blanks, then `d`
    have hbs : blanks bs := fun x hx => h.ws1 x (by rw [hws]; exact List.mem_cons_of_mem _ hx)
    have hb : isBlank b = true := h.ws1 b (by rw [hws]; exact List.mem_cons_self)
    rw [skipDelim_congr _ _ _ (e.d :: e.rest) (dropWhile_blanks _ _ hbs)]
    apply hfromd
    cases hds : seenAt cfg.delim b
    · exact .inl rfl
    · -- a blank that counts as delimiter: the set is not mixed, so it has blanks only, and `d` is one of them
      right
      cases hm : mixedDelim cfg.delim
      · rw [seenAt, hm, if_neg Bool.false_ne_true] at hds
        have hw' : hasWsp cfg.delim = true := List.any_eq_true.mpr ⟨b, List.contains_iff_mem.mp hds, isBlank_isSpace hb⟩
        have hnw : hasNonWsp cfg.delim = false := by rw [mixedDelim, hw', Bool.true_and] at hm; exact hm
        rcases h.dIn with hin | ⟨hm', _⟩
        · exact space_of_delim _ hnw _ hin
        · rw [hm] at hm'; cases hm'
      · rw [seenAt, hm, if_pos rfl, isBlank_isSpace hb] at hds; cases hds

theorem parseValue_core (cfg : Cfg) (hw : CfgWF cfg) (e : EntryI) (h : e.WF cfg) :
    parseValue cfg.delim (seenAt cfg.delim e.sepByte) e.data = .ok e.expValue := by
  unfold parseValue
  by_cases hde : e.data.isEmpty = true
  · -- nothing at all follows the byte behind the key: no value
    simp only [hde, if_true]
    have hd : e.data = [] := by simpa using hde
    unfold EntryI.data at hd
    cases hws : e.ws1 with
    | cons b bs => rw [hws] at hd; simp at hd
    | nil =>
      rw [hws] at hd
      unfold EntryI.rest at hd
      have h1 : e.ws2 = [] := by
        cases hh : e.ws2 with
        | nil => rfl
        | cons a as => rw [hh] at hd; simp at hd
      have h3 : e.tws = [] := by
        cases hh : e.tws with
        | nil => rfl
        | cons a as => rw [hh] at hd; simp at hd
      have h2 : e.value.render = [] := by
        rw [h1, h3] at hd; simpa using hd
      have hv : e.value = .plain [] := by
        cases hval : e.value with
        | plain v => rw [hval] at h2; simp [ValSpell.render] at h2; rw [h2]
        | quoted q => rw [hval] at h2; simp [ValSpell.render] at h2
      simp [EntryI.expValue, hv, hws, h1, h3]
  · simp only [hde, Bool.false_eq_true, if_false, skipDelim_core cfg hw e h]
    rcases valueOf_vtext cfg e h with ⟨_, hv⟩ | ⟨hv, hvt⟩
    · rw [hv]
    · -- the empty plain value with something (blanks, the separator) behind the key: the empty text
      rw [hvt]
      have hne : ¬(e.ws1.isEmpty = true ∧ e.ws2.isEmpty = true ∧ e.tws.isEmpty = true) := by
        intro hh
        apply hde
        have a : e.ws1 = [] := by simpa using hh.1
        have b : e.ws2 = [] := by simpa using hh.2.1
        have c : e.tws = [] := by simpa using hh.2.2
        simp [EntryI.data, EntryI.rest, a, b, c, hv, ValSpell.render]
      have hne' : (e.ws1.isEmpty && e.ws2.isEmpty && e.tws.isEmpty) = false := by
        cases hb : (e.ws1.isEmpty && e.ws2.isEmpty && e.tws.isEmpty)
        · rfl
        · simp only [Bool.and_eq_true] at hb
          exact absurd ⟨hb.1.1, hb.1.2, hb.2⟩ hne
      simp only [valueOf, EntryI.expValue, hv, List.isEmpty_nil, if_true, hne', Bool.false_eq_true, if_false]

theorem isContinuation_core (cfg : Cfg) (hw : CfgWF cfg) (st : PState) (org : Str) (e : EntryI) (h : e.WF cfg) :
    isContinuation cfg st org (seenAt cfg.delim e.sepByte) e.data = false := by
  unfold isContinuation
  by_cases hmx : mixedDelim cfg.delim = true
  · simp [hmx]
  · have hmx' : mixedDelim cfg.delim = false := by simpa using hmx
    have hdin : cfg.delim.contains e.d = true := by
      rcases h.dIn with hd | ⟨hm, _⟩
      · exact hd
      · rw [hmx'] at hm; cases hm
    have hfound : (seenAt cfg.delim e.sepByte || e.data.any cfg.delim.contains) = true := by
      unfold EntryI.sepByte EntryI.data seenAt
      cases hws : e.ws1 with
      | nil => simp only [hmx', Bool.false_eq_true, if_false, hdin, Bool.true_or]
      | cons b bs =>
        have : (bs ++ e.d :: e.rest).any cfg.delim.contains = true := by
          rw [List.any_append, List.any_cons, hdin]; simp
        simp [this]
    simp only [hw.noPython, hmx', hfound]
    simp

theorem parse_entry_first (cfg : Cfg) (hw : CfgWF cfg) (st : PState) (e : EntryI) (h : e.WF cfg) :
    parseLine cfg st (e.indent ++ e.body ++ [NL]) =
      .ok (storeNew { st with line := st.line + 1, ca := caWith st.ca e.tc } e.key e.expValue.1 e.expValue.2) := by
  obtain ⟨k0, ks, hkey⟩ := List.exists_cons_of_ne_nil h.keyNe
  have hk0 := h.keyCh k0 (by rw [hkey]; exact List.mem_cons_self)
  have h0 : e.core.head? = some k0 := by rw [EntryI.core_eq, hkey]; rfl
  have hlbr : k0 ≠ LBR := fun hh => h.keyHead (by rw [hkey, hh]; rfl)
  rw [EntryI.body_eq, parseLine_render cfg hw st e.indent e.core e.tc k0 h.ind (core_texts cfg e h) h0 hk0.2.1 hk0.2.2.2.1
    (core_safe cfg hw e h) h.tc, parseContent_entry cfg _ _ _ k0 h0 hlbr (noDelim_false cfg e h)]
  exact (parseEntry_new cfg _ _ _ _ _ _ (splitKey_core cfg e h) (isContinuation_core cfg hw _ _ e h) h.keyNe).1 _ _
    (parseValue_core cfg hw e h)


/-- the last entry was stored or extended on the current line -/
def LastHere (st : PState) : Prop := ∃ e, st.entries.getLast? = some e ∧ e.line = st.line

theorem lastHere_storeNew (st : PState) (k : Str) (v : Option Str) (q : Bool) : LastHere (storeNew st k v q) := by
  unfold LastHere storeNew
  simp

theorem lastHere_storeAppend (py : Bool) (st : PState) (v : Str) (h : st.entries ≠ []) : LastHere (storeAppend py st v) := by
  unfold LastHere storeAppend
  cases hl : st.entries.getLast? with
  | none => exact absurd (List.getLast?_eq_none_iff.mp hl) h
  | some e => simp [appendToEntry]

theorem lastEntry_next (st : PState) (ca : Option Str) (h : LastHere st) :
    lastEntryOnPrevLine { st with line := st.line + 1, ca := ca } = true := by
  obtain ⟨e, he, hl⟩ := h
  simp [lastEntryOnPrevLine, he, hl]

theorem entries_ne_of_lastHere (st : PState) (h : LastHere st) : st.entries ≠ [] := by
  obtain ⟨e, he, _⟩ := h
  intro hn; rw [hn] at he; simp at he

theorem splitKey_nodelim (delim name : Str) (hm : mixedDelim delim = false) (h : ∀ c ∈ name, delim.contains c = false) :
    (splitKey delim name).2.1 = false ∧ (splitKey delim name).2.2.any delim.contains = false := by
  unfold splitKey
  simp only
  have hsub : ∀ c ∈ name.dropWhile (fun c => !(isSpace c || delim.contains c)), delim.contains c = false :=
    fun c hc => h c ((List.dropWhile_sublist _).subset hc)
  split
  · rename_i k ks d ds hk hr
    rw [hr] at hsub
    refine ⟨?_, ?_⟩
    · simp only [hm, Bool.false_eq_true, if_false]; exact hsub d (by simp)
    · rw [List.any_eq_false]; intro x hx; rw [hsub x (List.mem_cons_of_mem _ hx)]; simp
  · refine ⟨rfl, ?_⟩
    rw [List.any_eq_false]; intro x hx; rw [hsub x hx]; simp

theorem foldl_takeWhile_id (ks l : Str) (h : ∀ k ∈ ks, k ∉ l) : ks.foldl (fun o c => o.takeWhile (· != c)) l = l := by
  induction ks with
  | nil => rfl
  | cons k ks ih =>
    rw [List.foldl_cons]
    have : l.takeWhile (· != k) = l := by
      have := List.takeWhile_append_of_pos (p := fun x => x != k) (l₁ := l) (l₂ := []) (by
        intro x hx
        simp only [bne_iff_ne, ne_eq]
        intro hxk; subst hxk; exact h x (by simp) hx)
      simpa using this
    rw [this]
    exact ih (fun k' hk' => h k' (List.mem_cons_of_mem _ hk'))

theorem contText_line (cfg : Cfg) (hw : CfgWF cfg) (t : Str) (h : ∀ k ∈ cfg.comment, k ∉ t) :
    contText false cfg.comment (t ++ [NL]) = t := by
  rw [contText_eq, if_neg Bool.false_ne_true, foldl_takeWhile_id, chomp_snoc]
  intro k hk hin
  rcases List.mem_append.mp hin with hin | hin
  · exact h k hk hin
  · cases List.mem_singleton.mp hin
    exact absurd (hw.kb NL hk) (by decide)

theorem isContinuation_eq (cfg : Cfg) (hpy : cfg.python = false) (st : PState) (org : Str) (ds : Bool) (data : Str) :
    isContinuation cfg st org ds data =
      (!mixedDelim cfg.delim && !(ds || data.any cfg.delim.contains) && lastEntryOnPrevLine st) := by
  simp only [isContinuation, hpy, Bool.not_false, Bool.true_or, if_true]

theorem parse_cont (cfg : Cfg) (hw : CfgWF cfg) (hmixed : mixedDelim cfg.delim = false) (hndl : noDelim cfg.delim = false) (st : PState) (l : ContLine) (h : l.WF cfg) (hl : LastHere st) :
    parseLine cfg st (l.render ++ [NL]) = .ok (storeAppend false { st with line := st.line + 1 } l.render) := by
  obtain ⟨t0, ts, htext⟩ := List.exists_cons_of_ne_nil h.textNe
  have ht0 := h.head t0 (by rw [htext]; rfl)
  have ht0c := h.textCh t0 (by rw [htext]; exact List.mem_cons_self)
  have h0 : (l.text ++ l.trail).head? = some t0 := by rw [htext]; rfl
  have hbody : texts (l.text ++ l.trail) := texts_append (fun c hc => (h.textCh c hc).1) (texts_blanks h.trail)
  have hnocomm : ∀ k ∈ cfg.comment, k ∉ l.text ++ l.trail := by
    intro k hk hin
    rcases List.mem_append.mp hin with hin | hin
    · exact (h.textCh k hin).2.2 hk
    · exact comment_not_blanks cfg hw hk h.trail hin
  have hnd : ∀ c ∈ l.text ++ l.trail, cfg.delim.contains c = false := by
    intro c hc
    rcases List.mem_append.mp hc with hc | hc
    · exact (h.textCh c hc).2.1
    · exact h.trailNd c hc
  have hsk := splitKey_nodelim cfg.delim (l.text ++ l.trail) hmixed hnd
  have hrender : l.render ++ [NL] = l.indent ++ (l.text ++ l.trail ++ TrailC.render none) ++ [NL] := by
    simp [ContLine.render, TrailC.render]
  have hcont : isContinuation cfg { st with line := st.line + 1 } (l.render ++ [NL])
      (splitKey cfg.delim (l.text ++ l.trail)).2.1 (splitKey cfg.delim (l.text ++ l.trail)).2.2 = true := by
    rw [isContinuation_eq cfg hw.noPython, hmixed, hsk.1, hsk.2, lastEntry_next st st.ca hl]; rfl
  have hct : contText false cfg.comment (l.render ++ [NL]) = l.render := by
    apply contText_line cfg hw
    intro k hk hin
    simp only [ContLine.render, List.mem_append] at hin
    rcases hin with (hin | hin) | hin
    · exact comment_not_blanks cfg hw hk h.ind hin
    · exact hnocomm k hk (List.mem_append.mpr (.inl hin))
    · exact hnocomm k hk (List.mem_append.mpr (.inr hin))
  rw [hrender, parseLine_render cfg hw st l.indent _ none t0 h.ind hbody h0 ht0.1 ht0c.2.2 (fun k hk => Or.inl (hnocomm k hk)) trivial,
    parseContent_entry cfg _ _ _ t0 h0 ht0.2 hndl, ← hrender]
  refine (parseEntry_cont cfg _ _ _ _ _ _ rfl hcont).trans ?_
  rw [hw.noPython, hct]


theorem parse_conts (cfg : Cfg) (hw : CfgWF cfg) (hmixed : mixedDelim cfg.delim = false) (hnd : noDelim cfg.delim = false) (conts : List ContLine) (st : PState)
    (h : ∀ l ∈ conts, l.WF cfg) (hl : LastHere st) :
    parseLines cfg st (conts.map (fun l => l.render ++ [NL])) =
      .ok (conts.foldl (fun s l => storeAppend false { s with line := s.line + 1 } l.render) st) ∧
    LastHere (conts.foldl (fun s l => storeAppend false { s with line := s.line + 1 } l.render) st) := by
  induction conts generalizing st with
  | nil => exact ⟨rfl, hl⟩
  | cons l ls ih =>
    have h1 := parse_cont cfg hw hmixed hnd st l (h l (by simp)) hl
    have hl' : LastHere (storeAppend false { st with line := st.line + 1 } l.render) :=
      lastHere_storeAppend false _ _ (entries_ne_of_lastHere st hl)
    have := ih _ (fun l' hl' => h l' (List.mem_cons_of_mem _ hl')) hl'
    simp only [List.map_cons, parseLines, h1, List.foldl_cons]
    exact this

theorem parse_keyonly (cfg : Cfg) (hw : CfgWF cfg) (st : PState) (ind key trail : Str) (tc : Option TrailC)
    (h : (Item.keyonly ind key trail tc).WF cfg) :
    parseLines cfg st (Item.keyonly ind key trail tc).lines = .ok (expItem st (.keyonly ind key trail tc)) := by
  obtain ⟨hnd, hi, htr, hne, hch, hhead, hlast, htc⟩ := h
  obtain ⟨k0, ks, rfl⟩ := List.exists_cons_of_ne_nil hne
  have hk0 := hch k0 List.mem_cons_self
  have hk0h := hhead k0 rfl
  have hbody : texts ((k0 :: ks) ++ trail) := texts_append (fun c hc => (hch c hc).1) (texts_blanks htr)
  have hsafe : ∀ k ∈ cfg.comment, SafeFor k ((k0 :: ks) ++ trail) := by
    intro k hk
    left
    intro hin
    rcases List.mem_append.mp hin with hin | hin
    · exact (hch k hin).2.1 hk
    · exact comment_not_blanks cfg hw hk htr hin
  have htrim : trimKey ((k0 :: ks) ++ trail) = trimKey (k0 :: ks) := by
    simp only [List.cons_append, trimKey]
    rw [dropLastWhile_append_all _ _ _ (fun x hx => isBlank_isSpace (htr x hx))]
  apply parseLines_single
  rw [parseLine_render cfg hw st ind _ tc k0 hi hbody rfl hk0h.1 hk0.2.1 hsafe htc,
    parseContent_keyonly cfg _ _ _ k0 rfl hk0h.2 hnd]
  simp only [storeNew, htrim, expItem]

theorem parse_item (cfg : Cfg) (hw : CfgWF cfg) (st : PState) (it : Item) (h : it.WF cfg) :
    parseLines cfg st it.lines = .ok (expItem st it) := by
  cases it with
  | blank ws => exact parse_blank cfg st ws h
  | comment ind c text => exact parse_comment cfg st ind c text hw h.1 h.2.1 h.2.2
  | sect ind name trail tc => exact parse_sect cfg st ind name trail tc hw h.1 h.2.1 h.2.2.1 h.2.2.2.1 h.2.2.2.2
  | entry e =>
    have h1 := parse_entry_first cfg hw st e h.1
    simp only [Item.lines, parseLines, h1, expItem]
    by_cases hc : e.cont = []
    · rw [hc]; rfl
    · have h2 := parse_conts cfg hw (h.2.2 hc) (noDelim_false cfg e h.1) e.cont _ h.2.1 (lastHere_storeNew { st with line := st.line + 1, ca := caWith st.ca e.tc } e.key e.expValue.1 e.expValue.2)
      exact h2.1
  | keyonly ind key trail tc => exact parse_keyonly cfg hw st ind key trail tc h

theorem parse_doc (cfg : Cfg) (hw : CfgWF cfg) (doc : List Item) (st : PState) (h : ∀ it ∈ doc, it.WF cfg) :
    parseLines cfg st (renderLines doc) = .ok (doc.foldl expItem st) := by
  induction doc generalizing st with
  | nil => rfl
  | cons it its ih =>
    unfold renderLines
    rw [List.flatMap_cons, parseLines_append, parse_item cfg hw st it (h it (by simp))]
    simp only [List.foldl_cons]
    exact ih _ (fun it' hit' => h it' (List.mem_cons_of_mem _ hit'))

theorem splitLines_line (t rest : Str) (h : NL ∉ t) : splitLines (t ++ NL :: rest) = (t ++ [NL]) :: splitLines rest := by
  induction t with
  | nil => simp [splitLines]
  | cons x t ih =>
    have hx : (x == NL) = false := by
      cases hc : x == NL
      · rfl
      · exact absurd (by simpa using hc) (fun hh : x = NL => h (by rw [hh]; simp))
    have := ih (fun hh => h (List.mem_cons_of_mem _ hh))
    simp only [List.cons_append, splitLines, hx, Bool.false_eq_true, if_false, this]

def IsLine (l : Str) : Prop := ∃ t, l = t ++ [NL] ∧ texts t

theorem splitLines_lines_append (ls : List Str) (rest : Str) (h : ∀ l ∈ ls, IsLine l) :
    splitLines (ls.flatten ++ rest) = ls ++ splitLines rest := by
  induction ls with
  | nil => rfl
  | cons l ls ih =>
    obtain ⟨t, rfl, ht⟩ := h l (by simp)
    rw [List.flatten_cons, List.append_assoc, List.append_assoc, List.singleton_append,
      splitLines_line t _ (text_ne_NL ht), ih (fun l' hl' => h l' (List.mem_cons_of_mem _ hl'))]
    rfl

theorem splitLines_lines (ls : List Str) (h : ∀ l ∈ ls, IsLine l) : splitLines ls.flatten = ls := by
  have := splitLines_lines_append ls [] h
  rwa [List.append_nil, show splitLines [] = [] from rfl, List.append_nil] at this

theorem item_lines_text (cfg : Cfg) (hw : CfgWF cfg) (it : Item) (h : it.WF cfg) : ∀ l ∈ it.lines, IsLine l := by
  cases it with
  | blank ws =>
    intro l hl; simp only [Item.lines, List.mem_singleton] at hl; subst hl
    exact ⟨ws, rfl, texts_blanks h⟩
  | comment ind c text =>
    intro l hl; simp only [Item.lines, List.mem_singleton] at hl; subst hl
    refine ⟨ind ++ c :: text, rfl, texts_append (texts_blanks h.1) ?_⟩
    intro x hx
    rcases List.mem_cons.mp hx with hx | hx
    · rw [hx]; exact text_of_comment_char cfg hw c h.2.1
    · exact h.2.2 x hx
  | sect ind name trail tc =>
    intro l hl; simp only [Item.lines, List.mem_singleton] at hl; subst hl
    refine ⟨ind ++ (LBR :: name ++ RBR :: trail ++ TrailC.render tc), rfl, texts_append (texts_blanks h.1) ?_⟩
    apply texts_append
    · rw [show LBR :: name ++ RBR :: trail = [LBR] ++ (name ++ ([RBR] ++ trail)) by simp]
      apply texts_append
      · intro x hx; simp at hx; subst hx; decide
      · apply texts_append
        · exact fun x hx => (h.2.2.2.1 x hx).1
        · apply texts_append
          · intro x hx; simp at hx; subst hx; decide
          · exact texts_blanks h.2.1
    · exact trail_texts cfg hw tc h.2.2.2.2
  | entry e =>
    intro l hl
    simp only [Item.lines, List.mem_cons, List.mem_map] at hl
    rcases hl with hl | ⟨c, hc, hl⟩
    · subst hl
      refine ⟨e.indent ++ e.body, rfl, texts_append (texts_blanks h.1.ind) ?_⟩
      rw [EntryI.body_eq]
      exact texts_append (core_texts cfg e h.1) (trail_texts cfg hw e.tc h.1.tc)
    · subst hl
      have hc' := h.2.1 c hc
      refine ⟨c.render, rfl, ?_⟩
      unfold ContLine.render
      exact texts_append (texts_append (texts_blanks hc'.ind) (fun x hx => (hc'.textCh x hx).1)) (texts_blanks hc'.trail)
  | keyonly ind key trail tc =>
    intro l hl; simp only [Item.lines, List.mem_singleton] at hl; subst hl
    obtain ⟨_, hi, htr, _, hch, _, _, htc⟩ := h
    exact ⟨ind ++ (key ++ trail ++ TrailC.render tc), rfl,
      texts_append (texts_blanks hi) (texts_append (texts_append (fun c hc => (hch c hc).1) (texts_blanks htr)) (trail_texts cfg hw tc htc))⟩

theorem lines_of_doc (cfg : Cfg) (hw : CfgWF cfg) (doc : List Item) (h : ∀ it ∈ doc, it.WF cfg) :
    ∀ l ∈ renderLines doc, IsLine l := by
  intro l hl
  unfold renderLines at hl
  obtain ⟨it, hit, hl⟩ := List.mem_flatMap.mp hl
  exact item_lines_text cfg hw it (h it hit) l hl

theorem splitLines_render (cfg : Cfg) (hw : CfgWF cfg) (doc : List Item) (h : ∀ it ∈ doc, it.WF cfg) :
    splitLines (render doc) = renderLines doc :=
  splitLines_lines _ (lines_of_doc cfg hw doc h)

theorem splitLines_render_append (cfg : Cfg) (hw : CfgWF cfg) (doc : List Item) (rest : Str) (h : ∀ it ∈ doc, it.WF cfg) :
    splitLines (render doc ++ rest) = renderLines doc ++ splitLines rest :=
  splitLines_lines_append _ rest (lines_of_doc cfg hw doc h)

end Econf
