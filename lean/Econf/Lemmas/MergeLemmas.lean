import Econf.Lemmas.ListLemmas
import Econf.Merge

/-! Helper lemmas about the merge model (no property statements here). -/

namespace Econf

def isKey (g k : Str) (e : Entry) : Bool := e.group == g && e.key == k

theorem findEntry_eq (l : List Entry) (g k : Str) : findEntry l g k = l.find? (isKey g k) := rfl
theorem defines_eq (l : List Entry) (g k : Str) : defines l g k = l.any (isKey g k) := rfl

theorem isKey_self (e : Entry) : isKey e.group e.key e = true := by simp [isKey]

theorem isKey_cpy (g k : Str) (e : Entry) : isKey g k (cpyEntry e) = isKey g k e := rfl

theorem isKey_true {g k : Str} {e : Entry} (h : isKey g k e = true) : e.group = g ∧ e.key = k := by
  simpa [isKey] using h

theorem defines_nil (g k : Str) : defines [] g k = false := rfl
theorem defines_cons (e : Entry) (l : List Entry) (g k : Str) :
    defines (e :: l) g k = (isKey g k e || defines l g k) := rfl
theorem defines_append (a b : List Entry) (g k : Str) :
    defines (a ++ b) g k = (defines a g k || defines b g k) := by
  simp only [defines_eq, List.any_append]
theorem defines_snoc (a : List Entry) (e : Entry) (g k : Str) :
    defines (a ++ [e]) g k = (defines a g k || isKey g k e) := by
  rw [defines_append, defines_cons, defines_nil, Bool.or_false]

theorem find_none_of_not_defines {l : List Entry} {g k : Str} (h : defines l g k = false) :
    l.find? (isKey g k) = none := by
  rw [defines_eq, List.any_eq_false] at h
  exact List.find?_eq_none.2 h

theorem find_some_of_defines {l : List Entry} {g k : Str} (h : defines l g k = true) :
    ∃ e, l.find? (isKey g k) = some e ∧ e.group = g ∧ e.key = k := by
  obtain ⟨e, he⟩ := Option.isSome_iff_exists.1 (List.isSome_find?.trans h)
  exact ⟨e, he, isKey_true (List.find?_some he)⟩

theorem hasGroup_cons (e : Entry) (l : List Entry) (g : Str) :
    hasGroup (e :: l) g = (e.group == g || hasGroup l g) := rfl

theorem hasGroup_of_defines {l : List Entry} {g k : Str} (h : defines l g k = true) : hasGroup l g = true := by
  obtain ⟨e, he, hk⟩ := List.any_eq_true.1 h
  exact List.any_eq_true.2 ⟨e, he, beq_iff_eq.2 (isKey_true hk).1⟩

theorem find_firstDefsAux (seen l : List Entry) (g k : Str) :
    (firstDefsAux seen l).find? (isKey g k) = if defines seen g k then none else l.find? (isKey g k) := by
  induction l generalizing seen with
  | nil => simp [firstDefsAux]
  | cons e es ih =>
    unfold firstDefsAux
    cases hk : isKey g k e with
    | false =>
      by_cases hd : defines seen e.group e.key = true
      · simp only [hd, if_true, ih, defines_snoc, hk, Bool.or_false, List.find?_cons]
      · have hd' : defines seen e.group e.key = false := by simpa using hd
        simp [hd', ih, defines_snoc, hk]
    | true =>
      obtain ⟨hg, hkk⟩ := isKey_true hk
      subst hg; subst hkk
      by_cases hd : defines seen e.group e.key = true
      · simp only [hd, if_true, ih, defines_snoc, Bool.true_or]
      · have hd' : defines seen e.group e.key = false := by simpa using hd
        simp [hd', hk]

theorem find_firstDefs (l : List Entry) (g k : Str) :
    (firstDefs l).find? (isKey g k) = l.find? (isKey g k) := by
  simp [firstDefs, find_firstDefsAux, defines_nil]

/-- a filter that is constant on the entries of one key either keeps or drops the lookup -/
theorem find_filter_key (l : List Entry) (q : Entry → Bool) (g k : Str) (b : Bool)
    (h : ∀ e, isKey g k e = true → q e = b) :
    (l.filter q).find? (isKey g k) = if b then l.find? (isKey g k) else none := by
  induction l with
  | nil => cases b <;> rfl
  | cons e es ih =>
    cases hk : isKey g k e with
    | true =>
      have hq := h e hk
      cases b with
      | true => simp [hq, hk]
      | false => simp [hq, ih]
    | false => cases hq : q e <;> simp [hq, hk, ih]

theorem find_map_cpy (l : List Entry) (g k : Str) :
    (l.map cpyEntry).find? (isKey g k) = (l.find? (isKey g k)).map cpyEntry := by
  induction l with
  | nil => rfl
  | cons e es ih =>
    simp only [List.map_cons, List.find?_cons, isKey_cpy]
    cases isKey g k e <;> simp [ih]

/-- "block" here and in `mem_block`, `block_nodup`: `((firstDefs ef).filter q).map cpyEntry`, the shape of every list of
    entries the merge copies from `ef` -/
theorem find_block (ef : List Entry) (q : Entry → Bool) (g k : Str) (b : Bool)
    (h : ∀ e, isKey g k e = true → q e = b) :
    (((firstDefs ef).filter q).map cpyEntry).find? (isKey g k) =
      if b then (ef.find? (isKey g k)).map cpyEntry else none := by
  rw [find_map_cpy, find_filter_key _ q g k b h, find_firstDefs]
  cases b <;> rfl

theorem isKey_overrideValue (ef : List Entry) (g k : Str) (u : Entry) :
    isKey g k (overrideValue ef u) = isKey g k u := by
  unfold overrideValue
  cases findEntry ef u.group u.key <;> rfl

theorem find_newKeysOf (uf ef : List Entry) (g' g k : Str) :
    (newKeysOf uf ef g').find? (isKey g k) =
      if g == g' && !defines uf g k then (ef.find? (isKey g k)).map cpyEntry else none := by
  unfold newKeysOf
  apply find_block
  intro e he
  obtain ⟨h1, h2⟩ := isKey_true he
  subst h1; subst h2
  rw [BEq.comm (a := e.group)]
  by_cases h : g' = e.group
  · subst h; simp
  · have : (g' == e.group) = false := by simpa using h
    simp [this]

theorem find_newKeysBlock (uf ef us : List Entry) (g' g k : Str) :
    (if hasGroup us g' = true then [] else newKeysOf uf ef g').find? (isKey g k) =
      if !hasGroup us g' && (g == g' && !defines uf g k) then (ef.find? (isKey g k)).map cpyEntry else none := by
  cases hasGroup us g'
  · rw [if_neg Bool.false_ne_true, find_newKeysOf]
    rfl
  · rfl

theorem find_mergeExistingAux_defined (uf ef rem : List Entry) (g k : Str) (hd : defines uf g k = true) :
    (mergeExistingAux uf ef rem).find? (isKey g k) = (rem.find? (isKey g k)).map (overrideValue ef) := by
  induction rem with
  | nil => rfl
  | cons u us ih =>
    rw [mergeExistingAux, List.find?_cons, List.find?_cons, isKey_overrideValue]
    cases hk : isKey g k u with
    | true => rfl
    | false =>
      rw [List.find?_append, find_newKeysBlock, hd, ih]
      simp only [Bool.not_true, Bool.and_false, Bool.false_eq_true, if_false, Option.none_or]

/-- a key the base does not define is found (as the override's first definition) behind the last
    base entry of its group -/
theorem find_mergeExistingAux_new (uf ef rem : List Entry) (g k : Str) (hd : defines uf g k = false)
    (hr : defines rem g k = false) :
    (mergeExistingAux uf ef rem).find? (isKey g k) =
      if hasGroup rem g then (ef.find? (isKey g k)).map cpyEntry else none := by
  induction rem with
  | nil => rfl
  | cons u us ih =>
    rw [defines_cons, Bool.or_eq_false_iff] at hr
    obtain ⟨hk, hus⟩ := hr
    rw [mergeExistingAux, List.find?_cons, isKey_overrideValue, hk, List.find?_append, find_newKeysBlock, ih hus,
      hasGroup_cons, hd, BEq.comm (a := u.group)]
    by_cases hg : g = u.group
    · rw [← hg, beq_self_eq_true]
      cases hasGroup us g <;> cases (ef.find? (isKey g k)).map cpyEntry <;> rfl
    · rw [beq_false_of_ne hg]
      simp only [Bool.false_and, Bool.and_false, Bool.false_eq_true, if_false, Option.none_or, Bool.false_or]

theorem find_insertNoGroup (uf ef : List Entry) (g k : Str) :
    (insertNoGroup uf ef).find? (isKey g k) =
      if !hasGroup uf NONE && g == NONE then (ef.find? (isKey g k)).map cpyEntry else none := by
  unfold insertNoGroup
  by_cases h : hasGroup uf NONE = true
  · simp [h]
  · have h' : hasGroup uf NONE = false := by simpa using h
    simp only [h', Bool.false_eq_true, if_false, Bool.not_false, Bool.true_and]
    apply find_block
    intro e he
    rw [(isKey_true he).1]

theorem find_addNewGroups (uf ef : List Entry) (g k : Str) :
    (addNewGroups uf ef).find? (isKey g k) =
      if g != NONE && !hasGroup uf g then (ef.find? (isKey g k)).map cpyEntry else none := by
  unfold addNewGroups
  apply find_block
  intro e he
  rw [(isKey_true he).1]

def keyOf (e : Entry) : Str × Str := (e.group, e.key)

theorem keyOf_cpy (e : Entry) : keyOf (cpyEntry e) = keyOf e := rfl
theorem keyOf_overrideValue (ef : List Entry) (u : Entry) : keyOf (overrideValue ef u) = keyOf u := by
  unfold overrideValue; cases findEntry ef u.group u.key <;> rfl
theorem group_overrideValue (ef : List Entry) (u : Entry) : (overrideValue ef u).group = u.group := by
  unfold overrideValue; cases findEntry ef u.group u.key <;> rfl
theorem key_overrideValue (ef : List Entry) (u : Entry) : (overrideValue ef u).key = u.key := by
  unfold overrideValue; cases findEntry ef u.group u.key <;> rfl

theorem firstDefsAux_sublist (seen l : List Entry) : (firstDefsAux seen l).Sublist l := by
  induction l generalizing seen with
  | nil => simp [firstDefsAux]
  | cons x xs ih =>
    unfold firstDefsAux
    split
    · exact (ih _).cons _
    · exact (ih _).cons_cons _

theorem firstDefs_sublist (l : List Entry) : (firstDefs l).Sublist l := firstDefsAux_sublist [] l

theorem defines_of_mem {l : List Entry} {e : Entry} (h : e ∈ l) : defines l e.group e.key = true := by
  rw [defines_eq]; exact List.any_eq_true.mpr ⟨e, h, isKey_self e⟩

theorem hasGroup_of_mem {l : List Entry} {e : Entry} (h : e ∈ l) : hasGroup l e.group = true := by
  unfold hasGroup; exact List.any_eq_true.mpr ⟨e, h, by simp⟩

theorem mem_block {ef : List Entry} {q : Entry → Bool} {e : Entry}
    (h : e ∈ ((firstDefs ef).filter q).map cpyEntry) : ∃ e', e' ∈ ef ∧ q e' = true ∧ e = cpyEntry e' := by
  obtain ⟨e', he', rfl⟩ := List.mem_map.mp h
  have := List.mem_filter.mp he'
  exact ⟨e', (firstDefs_sublist ef).subset this.1, this.2, rfl⟩

theorem not_defines_of_mem_newKeysOf {uf ef : List Entry} {g : Str} {e : Entry} (h : e ∈ newKeysOf uf ef g) :
    e.group = g ∧ defines uf e.group e.key = false := by
  unfold newKeysOf at h
  obtain ⟨e', _, hq, rfl⟩ := mem_block h
  simp only [Bool.and_eq_true, beq_iff_eq, Bool.not_eq_true'] at hq
  refine ⟨hq.1, ?_⟩
  show defines uf e'.group e'.key = false
  rw [hq.1]; exact hq.2

/-- what `mergeExistingAux` emits for `rem`: the entries of `rem` with their values overridden, and
    keys only the override has, in groups of `rem` -/
theorem mem_mergeExistingAux {uf ef rem : List Entry} {e : Entry} (h : e ∈ mergeExistingAux uf ef rem) :
    (∃ u ∈ rem, e = overrideValue ef u) ∨ (∃ u ∈ rem, e ∈ newKeysOf uf ef u.group) := by
  induction rem with
  | nil => cases h
  | cons u us ih =>
    rw [mergeExistingAux] at h
    rcases List.mem_cons.mp h with h | h
    · exact .inl ⟨u, List.mem_cons_self, h⟩
    · rcases List.mem_append.mp h with h | h
      · split at h
        · cases h
        · exact .inr ⟨u, List.mem_cons_self, h⟩
      · rcases ih h with ⟨x, hx, hh⟩ | ⟨x, hx, hh⟩
        · exact .inl ⟨x, List.mem_cons_of_mem _ hx, hh⟩
        · exact .inr ⟨x, List.mem_cons_of_mem _ hx, hh⟩

theorem group_mem_mergeExistingAux {uf ef rem : List Entry} {e : Entry}
    (h : e ∈ mergeExistingAux uf ef rem) : hasGroup rem e.group = true := by
  rcases mem_mergeExistingAux h with ⟨u, hu, rfl⟩ | ⟨u, hu, hh⟩
  · rw [group_overrideValue]
    exact hasGroup_of_mem hu
  · rw [(not_defines_of_mem_newKeysOf hh).1]
    exact hasGroup_of_mem hu

theorem group_mem_insertNoGroup {uf ef : List Entry} {e : Entry} (h : e ∈ insertNoGroup uf ef) :
    e.group = NONE ∧ hasGroup uf NONE = false := by
  unfold insertNoGroup at h
  split at h
  · simp at h
  · rename_i hn
    obtain ⟨e', _, hq, rfl⟩ := mem_block h
    have hq' : e'.group = NONE := by simpa using hq
    exact ⟨hq', by simpa using hn⟩

theorem group_mem_addNewGroups {uf ef : List Entry} {e : Entry} (h : e ∈ addNewGroups uf ef) :
    e.group ≠ NONE ∧ hasGroup uf e.group = false := by
  unfold addNewGroups at h
  obtain ⟨e', _, hq, rfl⟩ := mem_block h
  simp only [Bool.and_eq_true, bne_iff_ne, ne_eq, Bool.not_eq_true'] at hq
  exact hq

def cnt (p : Entry → Bool) (l : List Entry) : Nat := (l.filter p).length

theorem cnt_le_of_imp {p q : Entry → Bool} (l : List Entry) (h : ∀ e, p e = true → q e = true) :
    cnt p l ≤ cnt q l := by
  rw [cnt, cnt, ← List.countP_eq_length_filter, ← List.countP_eq_length_filter]
  exact List.countP_mono_left (fun e _ => h e)

theorem cnt_add_le_of_disjoint {p q r : Entry → Bool} (l : List Entry)
    (hp : ∀ e, p e = true → r e = true) (hq : ∀ e, q e = true → r e = true)
    (hd : ∀ e, p e = true → q e = false) : cnt p l + cnt q l ≤ cnt r l := by
  induction l with
  | nil => simp [cnt]
  | cons x xs ih =>
    unfold cnt at *
    simp only [List.filter_cons]
    cases hpx : p x with
    | true =>
      have := hd x hpx
      simp [this, hp x hpx]; omega
    | false =>
      cases hqx : q x with
      | true => simp [hq x hqx]; omega
      | false =>
        cases hrx : r x with
        | true => simp; omega
        | false => simpa using ih

theorem cnt_le_length (p : Entry → Bool) (l : List Entry) : cnt p l ≤ l.length := List.length_filter_le _ _

/-- length of what `mergeExistingAux` emits: the base entries plus at most the first
    definitions of the override whose group occurs in `rem` -/
theorem length_mergeExistingAux (uf ef rem : List Entry) :
    (mergeExistingAux uf ef rem).length ≤ rem.length + cnt (fun e => hasGroup rem e.group) (firstDefs ef) := by
  induction rem with
  | nil => simp [mergeExistingAux, cnt, hasGroup]
  | cons u us ih =>
    unfold mergeExistingAux
    simp only [List.length_cons, List.length_append]
    by_cases hg : hasGroup us u.group = true
    · simp only [hg, if_true, List.length_nil]
      have : cnt (fun e => hasGroup us e.group) (firstDefs ef) ≤ cnt (fun e => hasGroup (u :: us) e.group) (firstDefs ef) :=
        cnt_le_of_imp _ (fun e he => by rw [hasGroup_cons]; simp [he])
      omega
    · have hg' : hasGroup us u.group = false := by simpa using hg
      simp only [hg', Bool.false_eq_true, if_false]
      have hnk : (newKeysOf uf ef u.group).length ≤ cnt (fun e => e.group == u.group) (firstDefs ef) := by
        unfold newKeysOf cnt
        rw [List.length_map]
        exact cnt_le_of_imp (p := fun e => e.group == u.group && !defines uf u.group e.key) _ (fun e he => by
          simp only [Bool.and_eq_true] at he; exact he.1)
      have hdis := cnt_add_le_of_disjoint (p := fun e => e.group == u.group) (q := fun e => hasGroup us e.group)
        (r := fun e => hasGroup (u :: us) e.group) (firstDefs ef)
        (fun e he => by rw [hasGroup_cons]; simp at he; simp [he])
        (fun e he => by rw [hasGroup_cons]; simp [he])
        (fun e he => by simp at he; rw [he]; exact hg')
      omega

/-- no two entries with the same (section, key) -/
def KeysNodup (l : List Entry) : Prop := l.Pairwise (fun a b => keyOf a ≠ keyOf b)

theorem keyOf_ne_of_defines {l : List Entry} {a b : Entry} (ha : defines l a.group a.key = true)
    (hb : defines l b.group b.key = false) : keyOf a ≠ keyOf b := by
  intro h
  rw [keyOf, keyOf, Prod.mk.injEq] at h
  rw [h.1, h.2, hb] at ha
  cases ha

theorem firstDefsAux_spec (seen l : List Entry) :
    KeysNodup (firstDefsAux seen l) ∧ ∀ e ∈ firstDefsAux seen l, defines seen e.group e.key = false := by
  induction l generalizing seen with
  | nil => simp [firstDefsAux, KeysNodup]
  | cons x xs ih =>
    unfold firstDefsAux
    have hrest := ih (seen ++ [x])
    have hweak : ∀ e ∈ firstDefsAux (seen ++ [x]) xs, defines seen e.group e.key = false := by
      intro e he
      have := hrest.2 e he
      rw [defines_snoc] at this
      cases hh : defines seen e.group e.key <;> simp_all
    split
    · exact ⟨hrest.1, hweak⟩
    · rename_i hx
      refine ⟨?_, ?_⟩
      · unfold KeysNodup
        rw [List.pairwise_cons]
        refine ⟨?_, hrest.1⟩
        intro b hb
        have := hrest.2 b hb
        exact keyOf_ne_of_defines (defines_of_mem (l := seen ++ [x]) (by simp)) this
      · intro e he
        rcases List.mem_cons.mp he with rfl | he
        · simpa using hx
        · exact hweak e he

theorem firstDefs_nodup (l : List Entry) : KeysNodup (firstDefs l) := (firstDefsAux_spec [] l).1

theorem block_nodup (ef : List Entry) (q : Entry → Bool) : KeysNodup (((firstDefs ef).filter q).map cpyEntry) := by
  unfold KeysNodup
  rw [List.pairwise_map]
  exact (firstDefs_nodup ef).sublist List.filter_sublist

end Econf
