import Econf.Props.C02

/-! What `expItem`/`expDoc` do to the line counter and the entry list, and the states compared up to pending
    comments and line numbers (`SameContent`); blank and comment lines (`Item.inert`) change nothing else. -/

namespace Econf

theorem conts_line (conts : List ContLine) (s : PState) :
    (conts.foldl (fun s l => storeAppend false { s with line := s.line + 1 } l.render) s).line = s.line + conts.length := by
  induction conts generalizing s with
  | nil => rfl
  | cons l ls ih => rw [List.foldl_cons, ih, storeAppend_line]; simp only [List.length_cons]; omega

theorem expItem_line (st : PState) (it : Item) : (expItem st it).line = st.line + it.lines.length := by
  cases it with
  | blank ws => rfl
  | comment ind c text => rfl
  | sect ind name trail tc => rfl
  | entry e =>
    simp only [expItem, conts_line, Item.lines, List.length_cons, List.length_map, storeNew]
    omega
  | keyonly ind key trail tc => rfl

theorem expDoc_line (doc : List Item) (st : PState) : (doc.foldl expItem st).line = st.line + (renderLines doc).length := by
  induction doc generalizing st with
  | nil => rfl
  | cons it its ih =>
    rw [List.foldl_cons, ih, expItem_line]
    simp only [renderLines, List.flatMap_cons, List.length_append]; omega

/-- the entry an entry item adds, given the state before it -/
def entryOf (st : PState) (e : EntryI) : Entry :=
  { group := st.curGroup.getD NONE
    key := e.key
    value := contValue e.expValue.1 e.cont
    cb := st.cb
    ca := (caWith st.ca e.tc).map (· ++ List.replicate e.cont.length NL)
    line := st.line + 1 + e.cont.length
    quotes := e.expValue.2 }

/-- the entries an item adds -/
def Item.adds (st : PState) : Item → List Entry
  | .entry e => [entryOf st e]
  | .keyonly _ key _ tc =>
    [{ group := st.curGroup.getD NONE, key := key, value := none, cb := st.cb, ca := caWith st.ca tc, line := st.line + 1, quotes := false }]
  | _ => []

theorem expItem_entries (cfg : Cfg) (st : PState) (it : Item) (h : it.WF cfg) :
    (expItem st it).entries = st.entries ++ it.adds st := by
  cases it with
  | blank ws => simp [expItem, Item.adds]
  | comment ind c text => simp [expItem, Item.adds]
  | sect ind name trail tc => simp [expItem, Item.adds]
  | entry e => rw [C02_entry_item cfg st e h.1]; rfl
  | keyonly ind key trail tc => rw [C02_keyonly_item cfg st ind key trail tc h]; rfl

theorem expDoc_entries_prefix (cfg : Cfg) (doc : List Item) (st : PState) (h : ∀ it ∈ doc, it.WF cfg) :
    ∃ more, (doc.foldl expItem st).entries = st.entries ++ more := by
  induction doc generalizing st with
  | nil => exact ⟨[], by simp⟩
  | cons it its ih =>
    obtain ⟨more, hm⟩ := ih (expItem st it) (fun x hx => h x (List.mem_cons_of_mem _ hx))
    refine ⟨it.adds st ++ more, ?_⟩
    rw [List.foldl_cons, hm, expItem_entries cfg st it (h it (by simp)), List.append_assoc]

/-- section, key, value and quoting of an entry (not its comments and line number) -/
def Entry.core (e : Entry) : Str × Str × Option Str × Bool := (e.group, e.key, e.value, e.quotes)

/-- sections in order of first appearance; entries in file order with section, key, value -/
def PState.view (st : PState) : List (Str × Str × Option Str × Bool) × List Str :=
  (st.entries.map Entry.core, st.groups)

/-- two states that agree on everything but pending comment lines and the line counter -/
def SameContent (s1 s2 : PState) : Prop :=
  s1.entries.map Entry.core = s2.entries.map Entry.core ∧ s1.groups = s2.groups ∧ s1.curGroup = s2.curGroup

theorem sameContent_item (cfg : Cfg) (s1 s2 : PState) (it : Item) (hit : it.WF cfg) (h : SameContent s1 s2) :
    SameContent (expItem s1 it) (expItem s2 it) := by
  obtain ⟨he, hg, hc⟩ := h
  refine ⟨?_, ?_, ?_⟩
  · rw [expItem_entries cfg s1 it hit, expItem_entries cfg s2 it hit, List.map_append, List.map_append, he]
    congr 1
    cases it with
    | entry e => simp [Item.adds, entryOf, Entry.core, hc]
    | keyonly ind key trail tc => simp [Item.adds, Entry.core, hc]
    | _ => rfl
  · cases it with
    | blank ws => exact hg
    | comment ind c text => exact hg
    | sect ind name trail tc => simp only [expItem, hg]
    | entry e => rw [C02_entry_item cfg s1 e hit.1, C02_entry_item cfg s2 e hit.1]; simp only [hg, hc]
    | keyonly ind key trail tc => rw [C02_keyonly_item cfg s1 ind key trail tc hit, C02_keyonly_item cfg s2 ind key trail tc hit]; simp only [hg, hc]
  · cases it with
    | blank ws => exact hc
    | comment ind c text => exact hc
    | sect ind name trail tc => rfl
    | entry e => rw [C02_entry_item cfg s1 e hit.1, C02_entry_item cfg s2 e hit.1]; exact hc
    | keyonly ind key trail tc => rw [C02_keyonly_item cfg s1 ind key trail tc hit, C02_keyonly_item cfg s2 ind key trail tc hit]; exact hc

theorem sameContent_doc (cfg : Cfg) (doc : List Item) (s1 s2 : PState) (hd : ∀ it ∈ doc, it.WF cfg) (h : SameContent s1 s2) :
    SameContent (doc.foldl expItem s1) (doc.foldl expItem s2) := by
  induction doc generalizing s1 s2 with
  | nil => exact h
  | cons it its ih =>
    exact ih _ _ (fun x hx => hd x (List.mem_cons_of_mem _ hx)) (sameContent_item cfg s1 s2 it (hd it (by simp)) h)

/-- an item without content: blank line or comment line -/
def Item.inert : Item → Bool
  | .blank _ => true
  | .comment _ _ _ => true
  | _ => false

/-- blank and comment lines change the line counter and the pending comment only -/
theorem inert_block (st : PState) (block : List Item) (h : ∀ it ∈ block, it.inert = true) :
    ∃ n cb, block.foldl expItem st = { st with line := n, cb := cb } := by
  induction block generalizing st with
  | nil => exact ⟨st.line, st.cb, rfl⟩
  | cons it its ih =>
    have hi := h it (by simp)
    obtain ⟨n, cb, hn⟩ := ih (expItem st it) (fun x hx => h x (List.mem_cons_of_mem _ hx))
    rw [List.foldl_cons, hn]
    cases it with
    | blank ws => exact ⟨n, cb, rfl⟩
    | comment ind c t => exact ⟨n, cb, rfl⟩
    | sect _ _ _ _ => cases hi
    | entry _ => cases hi
    | keyonly _ _ _ _ => cases hi

theorem sameContent_inert_block (st : PState) (block : List Item) (h : ∀ it ∈ block, it.inert = true) :
    SameContent (block.foldl expItem st) st := by
  obtain ⟨n, cb, hn⟩ := inert_block st block h
  rw [hn]
  exact ⟨rfl, rfl, rfl⟩

end Econf
