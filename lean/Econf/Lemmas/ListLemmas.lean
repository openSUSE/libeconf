import Econf.Bytes

/-! Generic list lemmas (takeWhile / dropWhile / trimming) used by the parser proofs. -/


namespace Econf

/-- found at once; the search for `LawfulBEq UInt8` otherwise walks through the order classes first -/
instance : LawfulBEq Byte := instLawfulBEq
instance : ReflBEq Byte := instLawfulBEq.toReflBEq

theorem all_of_dropWhile_nil {α} (p : α → Bool) (l : List α) (h : l.dropWhile p = []) : ∀ x ∈ l, p x = true := by
  induction l with
  | nil => simp
  | cons a as ih =>
    rw [List.dropWhile_cons] at h
    split at h
    · rename_i hp
      intro x hx
      rcases List.mem_cons.mp hx with rfl | hx
      · exact hp
      · exact ih h x hx
    · cases h

theorem dropWhile_nil_of_all {α} (p : α → Bool) (l : List α) (h : ∀ x ∈ l, p x = true) : l.dropWhile p = [] := by
  induction l with
  | nil => rfl
  | cons a as ih =>
    rw [List.dropWhile_cons, if_pos (h a List.mem_cons_self)]
    exact ih (fun x hx => h x (List.mem_cons_of_mem _ hx))

theorem dropWhile_id_of_head {α} (p : α → Bool) (a : α) (l : List α) (h : p a = false) : (a :: l).dropWhile p = a :: l := by
  rw [List.dropWhile_cons]; simp [h]

theorem dropLastWhile_append_last (p : Byte → Bool) (l : Str) (a : Byte) (h : p a = false) :
    dropLastWhile p (l ++ [a]) = l ++ [a] := by
  unfold dropLastWhile
  simp [List.reverse_append, h]

theorem dropLastWhile_of_getLast? (p : Byte → Bool) (cs : Str) (hlast : ∀ c, cs.getLast? = some c → p c = false) :
    dropLastWhile p cs = cs := by
  cases hcs : cs.getLast? with
  | none =>
    have : cs = [] := List.getLast?_eq_none_iff.mp hcs
    subst this; rfl
  | some l =>
    obtain ⟨ys, rfl⟩ := List.getLast?_eq_some_iff.mp hcs
    exact dropLastWhile_append_last _ _ _ (hlast l hcs)

theorem dropLastWhile_append_all (p : Byte → Bool) (l t : Str) (ht : ∀ x ∈ t, p x = true) :
    dropLastWhile p (l ++ t) = dropLastWhile p l := by
  unfold dropLastWhile
  rw [List.reverse_append, List.dropWhile_append_of_pos (fun a ha => ht a (List.mem_reverse.mp ha))]

theorem dropLastWhile_nil (p : Byte → Bool) : dropLastWhile p [] = [] := rfl

theorem mem_of_mem_dropLastWhile (p : Byte → Bool) (l : Str) (x : Byte) (h : x ∈ dropLastWhile p l) : x ∈ l := by
  unfold dropLastWhile at h
  exact List.mem_reverse.mp ((List.dropWhile_sublist _).subset (List.mem_reverse.mp h))

theorem dropLastWhile_ne_nil (p : Byte → Bool) (l : Str) (x : Byte) (hx : x ∈ l) (hp : p x = false) :
    dropLastWhile p l ≠ [] := by
  intro h
  unfold dropLastWhile at h
  have h2 : l.reverse.dropWhile p = [] := by simpa using h
  have := all_of_dropWhile_nil p _ h2 x (List.mem_reverse.mpr hx)
  rw [hp] at this; cases this

theorem takeWhile_stop {α} (p : α → Bool) (a : α) (r : List α) (h : p a = false) : (a :: r).takeWhile p = [] := by
  simp [h]

theorem splitOn_none (c : Byte) (t : Str) (h : c ∉ t) : splitOn c t = [t] := by
  induction t with
  | nil => rfl
  | cons x xs ih =>
    have hx : (x == c) = false := by
      have : x ≠ c := fun hh => h (by simp [hh])
      simpa using this
    have hxs : c ∉ xs := fun hh => h (by simp [hh])
    simp only [splitOn, hx, Bool.false_eq_true, if_false, ih hxs]

theorem splitOn_joinWith (c : Byte) (parts : List Str) (hne : parts ≠ []) (h : ∀ p ∈ parts, c ∉ p) :
    splitOn c (joinWith c parts) = parts := by
  induction parts with
  | nil => exact absurd rfl hne
  | cons p ps ih =>
    have hp := h p List.mem_cons_self
    have single : ∀ (q : Str) (rest : List Str), c ∉ q → splitOn c (q ++ c :: joinWith c rest) = q :: splitOn c (joinWith c rest) := by
      intro q rest hq
      induction q with
      | nil => simp [splitOn]
      | cons x xs ihq =>
        have hx : (x == c) = false := by
          have : x ≠ c := fun hh => hq (by simp [hh])
          simpa using this
        have hxs : c ∉ xs := fun hh => hq (by simp [hh])
        simp only [List.cons_append, splitOn, hx, Bool.false_eq_true, if_false, ihq hxs]
    cases ps with
    | nil => simp only [joinWith]; exact splitOn_none c p hp
    | cons q qs =>
      simp only [joinWith]
      rw [single p (q :: qs) hp]
      rw [ih (by simp) (fun x hx => h x (List.mem_cons_of_mem _ hx))]

theorem joinWith_splitOn (c : Byte) (t : Str) : joinWith c (splitOn c t) = t := by
  induction t with
  | nil => rfl
  | cons x xs ih =>
    cases hs : splitOn c xs with
    | nil =>
      rw [hs] at ih
      cases (ih : [] = xs)
      cases hs
    | cons p ps =>
      rw [hs] at ih
      unfold splitOn
      by_cases hx : (x == c) = true
      · rw [if_pos hx, hs, eq_of_beq hx]
        simp only [joinWith, List.nil_append]
        rw [ih]
      · rw [if_neg hx, hs]
        cases ps with
        | nil => simp only [joinWith] at ih ⊢; rw [ih]
        | cons q qs => simp only [joinWith, List.cons_append] at ih ⊢; rw [ih]

theorem startsWith_append (pre rest : Str) : startsWith (pre ++ rest) pre = true := by
  unfold startsWith; simp


end Econf
