import Econf.Lemmas.MiniCEqns

/-!
  Lemmas about the MiniC interpreter that the proofs about the translated functions share: the loop rule and its instances,
  stepping through statements, the integer conversions and the value range of `char`, and blocks that hold initialised bytes
  (`MemBytes`), a C string, a single byte (`MemCell`), or bytes followed by uninitialised ones (`MemPart`).
-/

namespace MiniC

/-- found at once; the search for `LawfulBEq UInt8` otherwise walks through the order classes first -/
instance : LawfulBEq UInt8 := instLawfulBEq
instance : ReflBEq UInt8 := instLawfulBEq.toReflBEq

/-! ### loops -/

def Round (test : St → R (Bool × St)) (body : St → Outcome) (step : St → R St) (st st' : St) : Prop :=
  ∃ T Q, test st = .ok (true, T) ∧ (body T = .normal Q ∨ body T = .cont Q) ∧ step Q = .ok st'

variable {test : St → R (Bool × St)} {body : St → Outcome} {step : St → R St}

theorem loop_round {st st' : St} (h : Round test body step st st') (fuel : Nat) :
    loop test body step (fuel + 1) st = loop test body step fuel st' := by
  obtain ⟨T, Q, ht, hb, hs⟩ := h
  rcases hb with hb | hb <;> simp [loop, ht, hb, hs]

theorem loop_exit {st R : St} (h : test st = .ok (false, R)) (fuel : Nat) :
    loop test body step (fuel + 1) st = .normal R := by simp [loop, h]

theorem loop_ret_now {st T R : St} {v : Val} (ht : test st = .ok (true, T)) (hb : body T = .ret v R) (fuel : Nat) :
    loop test body step (fuel + 1) st = .ret v R := by simp [loop, ht, hb]

theorem loop_brk_now {st T R : St} (ht : test st = .ok (true, T)) (hb : body T = .brk R) (fuel : Nat) :
    loop test body step (fuel + 1) st = .normal R := by simp [loop, ht, hb]

/-- The loop rule.  An invariant indexed by the round is kept by `n` ordinary rounds; whatever the loop does from a state
    with `Inv n` (leave, `return`, `break`) decides the outcome.  All other loop lemmas are instances. -/
theorem loop_rounds (Post : Outcome → Prop) : ∀ (n : Nat) (Inv : Nat → St → Prop),
    (∀ i st, i < n → Inv i st → ∃ st', Round test body step st st' ∧ Inv (i + 1) st') →
    (∀ st fuel, Inv n st → Post (loop test body step (fuel + 1) st)) →
    ∀ st fuel, Inv 0 st → n < fuel → Post (loop test body step fuel st)
  | 0, _, _, hend, st, fuel, h0, hf => by
    obtain ⟨f, rfl⟩ : ∃ f, fuel = f + 1 := ⟨fuel - 1, by omega⟩
    exact hend st f h0
  | n + 1, Inv, hstep, hend, st, fuel, h0, hf => by
    obtain ⟨f, rfl⟩ : ∃ f, fuel = f + 1 := ⟨fuel - 1, by omega⟩
    obtain ⟨st', hr, hi⟩ := hstep 0 st (by omega) h0
    rw [loop_round hr]
    exact loop_rounds Post n (fun i => Inv (i + 1)) (fun i st hi' => hstep (i + 1) st (by omega)) hend st' f hi (by omega)

/-- a loop that makes `n` rounds through the states `P 0, …, P n` and then fails its test; the test itself may change the
    state (`while (*(++p) != c)`): `T i` is the state after the i-th successful test -/
theorem loop_count' (test : St → R (Bool × St)) (body : St → Outcome) (step : St → R St) :
    ∀ (n : Nat) (P T : Nat → St) (R : St),
    (∀ i, i < n → test (P i) = .ok (true, T i) ∧ ∃ Q, (body (T i) = .normal Q ∨ body (T i) = .cont Q) ∧ step Q = .ok (P (i + 1))) →
    test (P n) = .ok (false, R) → ∀ fuel, n < fuel → loop test body step fuel (P 0) = .normal R := by
  intro n P T R hstep hend fuel hf
  refine loop_rounds (· = .normal R) n (fun i st => st = P i) ?_ (fun st f h => h ▸ loop_exit hend f) _ fuel rfl hf
  rintro i _ hi rfl
  obtain ⟨ht, Q, hb, hs⟩ := hstep i hi
  exact ⟨_, ⟨_, Q, ht, hb, hs⟩, rfl⟩

theorem loop_count (test : St → R (Bool × St)) (body : St → Outcome) (step : St → R St) :
    ∀ (n : Nat) (P : Nat → St) (R : St),
    (∀ i, i < n → test (P i) = .ok (true, P i) ∧ ∃ Q, (body (P i) = .normal Q ∨ body (P i) = .cont Q) ∧ step Q = .ok (P (i + 1))) →
    test (P n) = .ok (false, R) → ∀ fuel, n < fuel → loop test body step fuel (P 0) = .normal R :=
  fun n P R hstep hend => loop_count' test body step n P P R hstep hend

theorem loop_inv (test : St → R (Bool × St)) (body : St → Outcome) (step : St → R St) (Post : St → Prop) :
    ∀ (n : Nat) (Inv : Nat → St → Prop),
    (∀ i st, i < n → Inv i st → ∃ T Q st', test st = .ok (true, T) ∧ (body T = .normal Q ∨ body T = .cont Q) ∧
      step Q = .ok st' ∧ Inv (i + 1) st') →
    (∀ st, Inv n st → ∃ R, test st = .ok (false, R) ∧ Post R) →
    ∀ st fuel, Inv 0 st → n < fuel → ∃ R, loop test body step fuel st = .normal R ∧ Post R := by
  intro n Inv hstep hend
  refine loop_rounds (fun o => ∃ R, o = .normal R ∧ Post R) n Inv ?_ ?_
  · intro i st hi h
    obtain ⟨T, Q, st', ht, hb, hs, hi'⟩ := hstep i st hi h
    exact ⟨st', ⟨T, Q, ht, hb, hs⟩, hi'⟩
  · intro st f h
    obtain ⟨R, ht, hp⟩ := hend st h
    exact ⟨R, loop_exit ht f, hp⟩

/-! ### statements -/

theorem exec_seq_normal {fuel : Nat} {a b : Stmt} {st st' : St} (h : exec fuel a st = .normal st') :
    exec fuel (.seq a b) st = exec fuel b st' := by simp [mc_exec, h]

theorem exec_seq_ret {fuel : Nat} {a b : Stmt} {st st' : St} {v : Val} (h : exec fuel a st = .ret v st') :
    exec fuel (.seq a b) st = .ret v st' := by simp [mc_exec, h]

theorem exec_seq_fault {fuel : Nat} {a b : Stmt} {st : St} {f : Fault} (h : exec fuel a st = .fault f) :
    exec fuel (.seq a b) st = .fault f := by simp [mc_exec, h]

theorem exec_seq_step {fuel : Nat} {a b : Stmt} {st st' : St} {R : Outcome} (h1 : exec fuel a st = .normal st')
    (h2 : exec fuel b st' = R) : exec fuel (.seq a b) st = R := by
  rw [exec_seq_normal h1, h2]

theorem exec_seq_cont {fuel : Nat} {a b : Stmt} {st st' : St} (h : exec fuel a st = .cont st') :
    exec fuel (.seq a b) st = .cont st' := by simp [mc_exec, h]

theorem exec_ite_true {fuel : Nat} {c : Expr} {a b : Stmt} {st st' : St} (h : testOf (some c) st = .ok (true, st')) :
    exec fuel (.ite c a b) st = exec fuel a st' := by simp [mc_exec, h]

theorem exec_ite_false {fuel : Nat} {c : Expr} {a b : Stmt} {st st' : St} (h : testOf (some c) st = .ok (false, st')) :
    exec fuel (.ite c a b) st = exec fuel b st' := by simp [mc_exec, h]

theorem exec_ite_skip {fuel : Nat} {c : Expr} {a : Stmt} {st st' : St} (h : testOf (some c) st = .ok (false, st')) :
    exec fuel (.ite c a .skip) st = .normal st' := by
  rw [exec_ite_false h]; rfl

theorem evalE_var {v : Nat} {ty : Ty} {st : St} {w : Val} (h : st.loc[v]? = some w) (hu : w ≠ .undef) :
    evalE (.load (.var v) ty) st = .ok (w, st) := by
  cases w <;> simp_all [mc_eval]

theorem exec_assign_var {fuel t : Nat} {E : Expr} {ty : Ty} {st st' : St} {v v' : Val}
    (hE : evalE E st = .ok (v, st')) (hc : convert ty v = .ok v') (ht : t < st'.loc.length) :
    exec fuel (.expr (.assign (.var t) E ty)) st = .normal { mem := st'.mem, loc := st'.loc.set t v' } := by
  simp [mc_exec, mc_eval, hE, hc, ht]

theorem exec_inl_var {fuel : Nat} {args : Args} {nl : Nat} {body : Stmt} {st st1 st' : St} {vs : List Val} {b : Nat} {o : Int} {i : Nat}
    (ha : evalArgs args st = .ok (vs, st1))
    (hb : exec fuel body { mem := st1.mem, loc := vs ++ List.replicate (nl - vs.length) .undef } = .ret (.ptr b o) st')
    (hi : i < st1.loc.length) :
    exec fuel (.inl (some (.var i)) .ptr args nl body) st = .normal { mem := st'.mem, loc := st1.loc.set i (.ptr b o) } := by
  simp [mc_exec, ha, hb, mc_eval, convert, hi]

/-! ### integer conversions, `char` -/

theorem wrapTo_unsigned {ty : Ty} (hb : ty ≠ .bool) (hs : ty.signed = false) (n : Int) : wrapTo ty n = n % 2 ^ ty.bits := by
  simp [wrapTo, hb, hs]

theorem wrapTo_signed {ty : Ty} (hs : ty.signed = true) {n : Int} (h1 : -(2 ^ ty.bits / 2) ≤ n) (h2 : n < 2 ^ ty.bits / 2)
    (heven : (2 : Int) ^ ty.bits / 2 * 2 = 2 ^ ty.bits) : wrapTo ty n = n := by
  have hb : ty ≠ .bool := by rintro rfl; cases hs
  simp only [wrapTo, hs, beq_iff_eq, hb, if_false, Bool.true_and, ge_iff_le, decide_eq_true_eq]
  generalize (2 : Int) ^ ty.bits = M at *
  by_cases hn : 0 ≤ n
  · rw [Int.emod_eq_of_lt hn (by omega)]; split <;> omega
  · have : n % M = n + M := by
      rw [← Int.add_emod_right, Int.emod_eq_of_lt (by omega) (by omega)]
    rw [this]; split <;> omega

theorem wrapTo_i32 (n : Int) (h1 : -2147483648 ≤ n) (h2 : n < 2147483648) : wrapTo .i32 n = n :=
  wrapTo_signed rfl h1 h2 (by decide)

theorem wrapTo_u64 (n : Int) : wrapTo .u64 n = n % 18446744073709551616 :=
  wrapTo_unsigned (by decide) rfl n

theorem wrapTo_u64_small (n : Int) (h0 : 0 ≤ n) (h1 : n < 18446744073709551616) : wrapTo .u64 n = n := by
  rw [wrapTo_u64]; exact Int.emod_eq_of_lt h0 h1

theorem _root_.LeafKf.wrapTo_u64_nat (n : Nat) (h : (n : Int) < 18446744073709551616) : wrapTo .u64 (n : Int) = n :=
  wrapTo_u64_small _ (by omega) h

theorem wrapTo_u64_pred (n : Nat) (h0 : 0 < n) (h : (n : Int) < 18446744073709551616) :
    wrapTo .u64 ((n : Int) - 1) = ((n - 1 : Nat) : Int) := by
  rw [wrapTo_u64_small _ (by omega) (by omega)]; omega

theorem wrapTo_u64_range (n : Int) : 0 ≤ wrapTo .u64 n ∧ wrapTo .u64 n < 18446744073709551616 := by
  rw [wrapTo_u64]
  exact ⟨Int.emod_nonneg n (by decide), Int.emod_lt_of_pos n (by decide)⟩

theorem wrapTo_u64_idem (n : Int) : wrapTo .u64 (wrapTo .u64 n) = wrapTo .u64 n :=
  wrapTo_u64_small _ (wrapTo_u64_range n).1 (wrapTo_u64_range n).2

theorem w64_one : wrapTo .u64 1 = 1 := wrapTo_u64_small 1 (by omega) (by omega)

theorem wrapTo_u32_small (n : Int) (h0 : 0 ≤ n) (h1 : n < 4294967296) : wrapTo .u32 n = n := by
  rw [wrapTo_unsigned (by decide) rfl, show ((2 : Int) ^ Ty.u32.bits) = 4294967296 by decide]
  exact Int.emod_eq_of_lt h0 h1

theorem convert_u64_small (n : Int) (h0 : 0 ≤ n) (h1 : n < 18446744073709551616) : convert .u64 (.int n) = .ok (.int n) := by
  simp [convert, wrapTo_u64_small n h0 h1]

theorem convert_ne_undef {ty : Ty} {v0 v : Val} (h : convert ty v0 = .ok v) : v ≠ .undef := by
  intro hv
  subst hv
  cases v0 <;> simp only [convert] at h <;> repeat' split at h
  all_goals simp at h

theorem inRange_i32 (n : Int) (h1 : -2147483648 ≤ n) (h2 : n < 2147483648) : inRange .i32 n = true := by
  simp [inRange, Ty.signed, Ty.bits]
  exact ⟨decide_eq_true h1, decide_eq_true h2⟩

theorem arith_i32 (n : Int) (h1 : -2147483648 ≤ n) (h2 : n < 2147483648) : arith .i32 n = .ok (.int n) := by
  have hr := inRange_i32 n h1 h2
  simp [arith, Ty.signed, hr]

theorem arith_u64 (n : Int) : arith .u64 n = .ok (.int (wrapTo .u64 n)) := by simp [arith, Ty.signed]

theorem wrapTo_i8_of_range (n : Int) (h1 : -128 ≤ n) (h2 : n < 128) : wrapTo .i8 n = n :=
  wrapTo_signed rfl h1 h2 (by decide)

theorem wrapTo_i8_range (n : Int) : -128 ≤ wrapTo .i8 n ∧ wrapTo .i8 n < 128 := by
  simp only [wrapTo, Ty.bits, Ty.signed, show (Ty.i8 == Ty.bool) = false from rfl, Bool.false_eq_true, if_false, Bool.true_and,
    show ((2 : Int) ^ 8) = 256 by decide]
  have h1 := Int.emod_nonneg n (show (256 : Int) ≠ 0 by decide)
  have h2 := Int.emod_lt_of_pos n (show (0 : Int) < 256 by decide)
  split <;> simp_all <;> omega

theorem wrapTo_i8_idem (n : Int) : wrapTo .i8 (wrapTo .i8 n) = wrapTo .i8 n :=
  wrapTo_i8_of_range _ (wrapTo_i8_range n).1 (wrapTo_i8_range n).2

/-- signed `char` value of a byte -/
def sch (c : UInt8) : Int := wrapTo .i8 c.toNat

theorem sch_range (c : UInt8) : -128 ≤ sch c ∧ sch c < 128 := wrapTo_i8_range _

theorem sch_eq (c : UInt8) : sch c = if c.toNat ≥ 128 then (c.toNat : Int) - 256 else c.toNat := by
  have h := c.toNat_lt
  simp only [sch, wrapTo, Ty.bits, Ty.signed, show (Ty.i8 == Ty.bool) = false from rfl, Bool.false_eq_true, if_false, Bool.true_and,
    show ((2 : Int) ^ 8) = 256 by decide, Int.emod_eq_of_lt (Int.natCast_nonneg _) (show (c.toNat : Int) < 256 by omega)]
  by_cases hc : c.toNat ≥ 128
  · simp [hc]; omega
  · simp [hc]; omega

theorem sch_zero_iff (c : UInt8) : sch c = 0 ↔ c = 0 := by
  have h := c.toNat_lt
  rw [sch_eq]
  constructor
  · intro h0
    have : c.toNat = 0 := by split at h0 <;> omega
    exact UInt8.toNat_inj.1 (by simpa using this)
  · rintro rfl; decide

theorem wrapTo_i32_sch (c : UInt8) : wrapTo .i32 (sch c) = sch c := by
  have := sch_range c
  exact wrapTo_i32 _ (by omega) (by omega)

theorem wrapTo_i8_sch (c : UInt8) : wrapTo .i8 (sch c) = sch c := wrapTo_i8_idem _

/-- the byte a store of the integer `v` leaves in memory -/
def byteOf (v : Int) : UInt8 := UInt8.ofNat (wrapTo .u8 v).toNat

theorem byteOf_toNat (c : UInt8) : byteOf (c.toNat : Int) = c := by
  have h := c.toNat_lt
  rw [byteOf, wrapTo_unsigned (by decide) rfl, show ((2 : Int) ^ Ty.u8.bits) = 256 by decide,
    Int.emod_eq_of_lt (by omega) (by omega)]
  exact UInt8.toNat_inj.1 (by simp)

/-- the byte stored for a `char` value -/
theorem byte_of_sch (c : UInt8) : UInt8.ofNat (wrapTo .u8 (sch c)).toNat = c := by
  have h := c.toNat_lt
  have e : (wrapTo .u8 (sch c)) = c.toNat := by
    rw [wrapTo_unsigned (by decide) rfl, show ((2 : Int) ^ Ty.u8.bits) = 256 by decide, sch_eq]
    split
    · rw [← Int.add_emod_right, Int.emod_eq_of_lt (by omega) (by omega)]; omega
    · exact Int.emod_eq_of_lt (by omega) (by omega)
  rw [e]
  exact UInt8.toNat_inj.1 (by simp)

theorem sch_inj (a c : UInt8) (h : sch a = sch c) : a = c := by
  have := congrArg byteOf h
  simpa [byteOf, byte_of_sch] using this

theorem sch_eq_iff (a c : UInt8) : sch a = sch c ↔ a = c := ⟨sch_inj a c, fun h => h ▸ rfl⟩

theorem byteOf_zero : byteOf 0 = 0 := by decide
theorem byteOf_one : byteOf 1 = 1 := by decide

theorem truth_ite (b : Bool) : ((if b = true then (1 : Int) else 0) != 0) = b := by cases b <;> rfl

/-! ### blocks of initialised bytes -/

def byteAt (s : List UInt8) (i : Nat) : UInt8 := (s ++ [0]).getD i 0

theorem byteAt_lt (s : List UInt8) (i : Nat) (h : i < s.length) : byteAt s i = s[i] := by
  simp [byteAt, List.getD_eq_getElem?_getD, List.getElem?_append_left h, List.getElem?_eq_getElem h]

theorem byteAt_len (s : List UInt8) : byteAt s s.length = 0 := by
  simp [byteAt, List.getD_eq_getElem?_getD]

/-- Storing into cell `i` of a live, writable block; nothing else changes.  The stores of `MemBytes`, `MemPart` and `MemCell`
    are this fact with the cells of the respective shape. -/
theorem store8_of {m : Mem} {b : Nat} {blk : Block} (h1 : m[b]? = some blk) (h2 : blk.live = true) (h3 : blk.writable = true)
    {i : Nat} (hi : i < blk.cells.length) (v : Int) :
    ∃ m', m.store8 b (i : Int) v = .ok m' ∧ m'[b]? = some { blk with cells := blk.cells.set i (some (byteOf v)) } ∧
      m'.length = m.length ∧ ∀ b', b' ≠ b → m'[b']? = m[b']? := by
  have hb : b < m.length := (List.getElem?_eq_some_iff.1 h1).1
  have hneg : ¬ ((i : Int) < 0) := by omega
  refine ⟨m.set b { blk with cells := blk.cells.set i (some (byteOf v)) }, ?_, by simp [hb], by simp, fun b' hb' => by simp [Ne.symm hb']⟩
  simp only [Mem.store8, Mem.block, h1, h2, h3, bind, Except.bind, if_true, hneg, if_false, Int.toNat_natCast, hi,
    Bool.not_true, Bool.false_eq_true, byteOf]

/-- block `b` of `m` is alive, writable and its cells are the initialised bytes `cells` -/
structure MemBytes (m : Mem) (b : Nat) (cells : List UInt8) : Prop where
  blk : ∃ blk, m[b]? = some blk ∧ blk.live = true ∧ blk.writable = true ∧ blk.cells = cells.map some

theorem MemBytes.lt_length {m : Mem} {b : Nat} {cells : List UInt8} (h : MemBytes m b cells) : b < m.length := by
  obtain ⟨blk, h1, _⟩ := h.blk
  exact (List.getElem?_eq_some_iff.1 h1).1

theorem MemBytes.load8 {m : Mem} {b : Nat} {cells : List UInt8} (h : MemBytes m b cells) (i : Nat) (hi : i < cells.length) :
    m.load8 b (i : Int) = .ok (sch cells[i]) := by
  obtain ⟨blk, h1, h2, _, h3⟩ := h.blk
  have hget : blk.cells[i]? = some (some cells[i]) := by
    rw [h3, List.getElem?_map, List.getElem?_eq_getElem hi]; rfl
  have hneg : ¬ ((i : Int) < 0) := by omega
  simp only [Mem.load8, Mem.block, h1, h2, bind, Except.bind, if_true, hneg, if_false, Int.toNat_natCast, hget, sch]

theorem MemBytes.store8_int {m : Mem} {b : Nat} {cells : List UInt8} (h : MemBytes m b cells) (i : Nat) (hi : i < cells.length) (v : Int) :
    ∃ m', m.store8 b (i : Int) v = .ok m' ∧ MemBytes m' b (cells.set i (byteOf v)) ∧ m'.length = m.length ∧
      ∀ b', b' ≠ b → m'[b']? = m[b']? := by
  obtain ⟨blk, h1, h2, h4, h3⟩ := h.blk
  obtain ⟨m', hs, hb, hl, ho⟩ := store8_of h1 h2 h4 (i := i) (by rw [h3]; simpa using hi) v
  exact ⟨m', hs, ⟨⟨_, hb, h2, h4, by simp [h3, List.map_set]⟩⟩, hl, ho⟩

theorem MemBytes.store8 {m : Mem} {b : Nat} {cells : List UInt8} (h : MemBytes m b cells) (i : Nat) (hi : i < cells.length) (c : UInt8) :
    ∃ m', m.store8 b (i : Int) (sch c) = .ok m' ∧ MemBytes m' b (cells.set i c) ∧ m'.length = m.length ∧
      ∀ b', b' ≠ b → m'[b']? = m[b']? := by
  have := h.store8_int i hi (sch c)
  rwa [show byteOf (sch c) = c from byte_of_sch c] at this

theorem MemBytes.of_block_eq {m m' : Mem} {b : Nat} {cells : List UInt8} (h : MemBytes m b cells)
    (he : m'[b]? = m[b]?) : MemBytes m' b cells := by
  obtain ⟨blk, h1, h2⟩ := h.blk
  exact ⟨⟨blk, he.trans h1, h2⟩⟩

theorem MemBytes.frame {m m' : Mem} {b b0 : Nat} {cells : List UInt8} (h : MemBytes m b cells)
    (hoth : ∀ b', b' ≠ b0 → m'[b']? = m[b']?) (hne : b ≠ b0) : MemBytes m' b cells :=
  h.of_block_eq (hoth b hne)

/-! ### blocks that hold a C string -/

theorem cstrFrom_str (s : List UInt8) (hs : (0 : UInt8) ∉ s) (rest : List (Option UInt8)) :
    cstrFrom (s.map some ++ some 0 :: rest) = .ok s := by
  induction s with
  | nil => simp [cstrFrom]
  | cons a s ih =>
    have ha : a ≠ 0 := fun h => hs (h ▸ List.mem_cons_self)
    have hs' : (0 : UInt8) ∉ s := fun h => hs (List.mem_cons_of_mem _ h)
    simp [cstrFrom, ha, ih hs', Except.map]

theorem MemBytes.cstr_at {m : Mem} {b : Nat} {pre mid rest : List UInt8} (h : MemBytes m b (pre ++ mid ++ 0 :: rest))
    (hp : (0 : UInt8) ∉ mid) : m.cstr b (pre.length : Int) = .ok mid := by
  obtain ⟨blk, h1, h2, _, h3⟩ := h.blk
  have hd : blk.cells = pre.map some ++ (mid.map some ++ some 0 :: rest.map some) := by rw [h3]; simp
  have hneg : ¬ ((pre.length : Int) < 0) := by omega
  have hle : pre.length ≤ blk.cells.length := by rw [hd]; simp
  have hdrop : (pre.map some ++ (mid.map some ++ some 0 :: rest.map some)).drop pre.length = mid.map some ++ some 0 :: rest.map some := by
    rw [← List.length_map (f := some), List.drop_left]
  simp only [Mem.cstr, Mem.block, h1, h2, bind, Except.bind, if_true, hneg, if_false, Int.toNat_natCast, hle]
  rw [hd, hdrop, cstrFrom_str _ hp]

theorem MemBytes.cstr0 {m : Mem} {b : Nat} {pre rest : List UInt8} (h : MemBytes m b (pre ++ 0 :: rest)) (hp : (0 : UInt8) ∉ pre) :
    m.cstr b 0 = .ok pre :=
  MemBytes.cstr_at (pre := []) (by simpa using h) hp

/-- `strlen`, `strchr` … see the string that starts at offset `k` of a block holding `s` -/
theorem MemBytes.cstr {m : Mem} {b : Nat} {s : List UInt8} (h : MemBytes m b (s ++ [0])) (hs : (0 : UInt8) ∉ s)
    (k : Nat) (hk : k ≤ s.length) : m.cstr b (k : Int) = .ok (s.drop k) := by
  have := MemBytes.cstr_at (pre := s.take k) (mid := s.drop k) (rest := []) (by simpa using h) (fun hm => hs (List.mem_of_mem_drop hm))
  rwa [List.length_take, Nat.min_eq_left hk] at this

/-! ### a one-byte object -/

/-- a live, writable one-byte object (e.g. a `bool` the caller passes by address), initialised or not -/
def MemCell (m : Mem) (b : Nat) : Prop := ∃ blk, m[b]? = some blk ∧ blk.live = true ∧ blk.writable = true ∧ blk.cells.length = 1

theorem MemCell.store {m : Mem} {b : Nat} (h : MemCell m b) (v : Int) :
    ∃ m', m.store8 b 0 v = .ok m' ∧ MemBytes m' b [byteOf v] ∧ m'.length = m.length ∧ ∀ b', b' ≠ b → m'[b']? = m[b']? := by
  obtain ⟨blk, h1, h2, h4, h3⟩ := h
  obtain ⟨m', hs, hb, hl, ho⟩ := store8_of h1 h2 h4 (i := 0) (by omega) v
  obtain ⟨x, hx⟩ : ∃ x, blk.cells = [x] := by
    match hc : blk.cells, h3 with
    | [x], _ => exact ⟨x, rfl⟩
  exact ⟨m', hs, ⟨⟨_, hb, h2, h4, by simp [hx]⟩⟩, hl, ho⟩

theorem MemCell.frame {m m' : Mem} {b b0 : Nat} (h : MemCell m b) (hoth : ∀ b', b' ≠ b0 → m'[b']? = m[b']?)
    (hne : b ≠ b0) : MemCell m' b := by
  obtain ⟨blk, h1, h2⟩ := h
  exact ⟨blk, (hoth b hne).trans h1, h2⟩

theorem MemBytes.toCell {m : Mem} {b : Nat} {c : UInt8} (h : MemBytes m b [c]) : MemCell m b := by
  obtain ⟨blk, h1, h2, h3, h4⟩ := h.blk
  exact ⟨blk, h1, h2, h3, by rw [h4]; rfl⟩

/-! ### objects that are being filled: initialised bytes followed by uninitialised ones -/

/-- block `b` is alive and writable; its first bytes are `pre`, the remaining `k` bytes are not initialised -/
structure MemPart (m : Mem) (b : Nat) (pre : List UInt8) (k : Nat) : Prop where
  blk : ∃ blk, m[b]? = some blk ∧ blk.live = true ∧ blk.writable = true ∧ blk.cells = pre.map some ++ List.replicate k none

theorem MemPart.toBytes {m : Mem} {b : Nat} {pre : List UInt8} (h : MemPart m b pre 0) : MemBytes m b pre := by
  obtain ⟨blk, h1, h2, h3, h4⟩ := h.blk
  exact ⟨⟨blk, h1, h2, h3, by simpa using h4⟩⟩

theorem MemPart.frame {m m' : Mem} {b b0 : Nat} {pre : List UInt8} {k : Nat} (h : MemPart m b pre k)
    (hoth : ∀ b', b' ≠ b0 → m'[b']? = m[b']?) (hne : b ≠ b0) : MemPart m' b pre k := by
  obtain ⟨blk, h1, h2, h3, h4⟩ := h.blk
  exact ⟨⟨blk, by rw [hoth b hne]; exact h1, h2, h3, h4⟩⟩

/-- `malloc(n)`: a fresh object behind all existing ones, nothing else changes -/
theorem alloc_spec (m : Mem) (n : Nat) :
    (m.alloc n).2 = m.length ∧ MemPart (m.alloc n).1 m.length [] n ∧ (m.alloc n).1.length = m.length + 1 ∧
      ∀ b', b' < m.length → (m.alloc n).1[b']? = m[b']? := by
  refine ⟨rfl, ⟨⟨{ cells := List.replicate n none }, by simp [Mem.alloc], rfl, rfl, by simp⟩⟩, by simp [Mem.alloc], ?_⟩
  intro b' hb'
  simp [Mem.alloc, List.getElem?_append_left hb']

theorem MemPart.store8 {m : Mem} {b : Nat} {pre : List UInt8} {k : Nat} (h : MemPart m b pre (k + 1)) (v : Int) :
    ∃ m', m.store8 b (pre.length : Int) v = .ok m' ∧ MemPart m' b (pre ++ [byteOf v]) k ∧ m'.length = m.length ∧
      ∀ b', b' ≠ b → m'[b']? = m[b']? := by
  obtain ⟨blk, h1, h2, h4, h3⟩ := h.blk
  obtain ⟨m', hs, hb, hl, ho⟩ := store8_of h1 h2 h4 (i := pre.length) (by rw [h3]; simp) v
  refine ⟨m', hs, ⟨⟨_, hb, h2, h4, ?_⟩⟩, hl, ho⟩
  simp only [h3]
  rw [List.set_append_right _ _ (by simp), List.length_map, Nat.sub_self, List.replicate_succ, List.set_cons_zero]
  simp

theorem MemPart.store8_at {m : Mem} {b : Nat} {pre : List UInt8} {k : Nat} (h : MemPart m b pre k) (i : Nat) (hi : i < pre.length) (v : Int) :
    ∃ m', m.store8 b (i : Int) v = .ok m' ∧ MemPart m' b (pre.set i (byteOf v)) k ∧ m'.length = m.length ∧
      ∀ b', b' ≠ b → m'[b']? = m[b']? := by
  obtain ⟨blk, h1, h2, h4, h3⟩ := h.blk
  obtain ⟨m', hs, hb, hl, ho⟩ := store8_of h1 h2 h4 (i := i) (by rw [h3]; simp; omega) v
  refine ⟨m', hs, ⟨⟨_, hb, h2, h4, ?_⟩⟩, hl, ho⟩
  simp only [h3]
  rw [List.set_append_left _ _ (by simpa using hi)]
  simp [List.map_set]

theorem MemPart.storeBytes {m : Mem} {b : Nat} : ∀ (l : List UInt8) {pre : List UInt8} {k : Nat} (h : MemPart m b pre (l.length + k)),
    ∃ m', m.storeBytes b (pre.length : Int) l = .ok m' ∧ MemPart m' b (pre ++ l) k ∧ m'.length = m.length ∧
      ∀ b', b' ≠ b → m'[b']? = m[b']?
  | [], pre, k, h => ⟨m, rfl, by simpa using h, rfl, fun _ _ => rfl⟩
  | c :: cs, pre, k, h => by
    have h' : MemPart m b pre ((cs.length + k) + 1) := by
      have : (c :: cs).length + k = (cs.length + k) + 1 := by simp; omega
      rw [this] at h; exact h
    obtain ⟨m1, hs1, hp1, hl1, ho1⟩ := h'.store8 (c.toNat : Int)
    rw [byteOf_toNat] at hp1
    obtain ⟨m2, hs2, hp2, hl2, ho2⟩ := MemPart.storeBytes (m := m1) cs (pre := pre ++ [c]) (k := k) hp1
    refine ⟨m2, ?_, by simpa using hp2, hl2.trans hl1, fun b' hb' => by rw [ho2 b' hb', ho1 b' hb']⟩
    have e : ((pre ++ [c]).length : Int) = (pre.length : Int) + 1 := by simp
    rw [e] at hs2
    simp [Mem.storeBytes, hs1, bind, Except.bind, hs2]

/-! ### `memcpy` / `memmove` on initialised objects, `strstr` -/

theorem MemBytes.loadBytes {m : Mem} {b : Nat} {cells : List UInt8} (h : MemBytes m b cells) :
    ∀ (n i : Nat), i + n ≤ cells.length → m.loadBytes b (i : Int) n = .ok ((cells.drop i).take n)
  | 0, i, _ => by simp [Mem.loadBytes]
  | n + 1, i, hle => by
    have hi : i < cells.length := by omega
    have ih := MemBytes.loadBytes h n (i + 1) (by omega)
    have e : ((i + 1 : Nat) : Int) = (i : Int) + 1 := by omega
    rw [e] at ih
    have hd : cells.drop i = cells[i] :: cells.drop (i + 1) := by rw [List.drop_eq_getElem_cons]
    simp only [Mem.loadBytes, h.load8 i hi, ih, bind, Except.bind]
    rw [hd, List.take_succ_cons]
    rw [byte_of_sch cells[i]]

theorem MemBytes.storeBytes_at {m : Mem} {b : Nat} : ∀ (l : List UInt8) {cells : List UInt8} (_ : MemBytes m b cells) (i : Nat),
    i + l.length ≤ cells.length →
    ∃ m', m.storeBytes b (i : Int) l = .ok m' ∧ MemBytes m' b (cells.take i ++ l ++ cells.drop (i + l.length)) ∧ m'.length = m.length ∧
      ∀ b', b' ≠ b → m'[b']? = m[b']?
  | [], cells, h, i, _ => ⟨m, rfl, by simpa using h, rfl, fun _ _ => rfl⟩
  | c :: cs, cells, h, i, hle => by
    have hi : i < cells.length := by simp at hle; omega
    obtain ⟨m1, hs1, hp1, hl1, ho1⟩ := h.store8_int i hi (c.toNat : Int)
    rw [byteOf_toNat] at hp1
    obtain ⟨m2, hs2, hp2, hl2, ho2⟩ := MemBytes.storeBytes_at (m := m1) cs hp1 (i + 1) (by simp at hle ⊢; omega)
    refine ⟨m2, ?_, ?_, hl2.trans hl1, fun b' hb' => by rw [ho2 b' hb', ho1 b' hb']⟩
    · have e : ((i + 1 : Nat) : Int) = (i : Int) + 1 := by omega
      rw [e] at hs2
      simp [Mem.storeBytes, hs1, bind, Except.bind, hs2]
    · have e1 : (cells.set i c).take (i + 1) = cells.take i ++ [c] := by
        rw [List.take_succ_eq_append_getElem (by simpa using hi)]
        simp [List.take_set_of_le]
      have e2 : (cells.set i c).drop (i + 1 + cs.length) = cells.drop (i + (c :: cs).length) := by
        rw [List.drop_set_of_lt (by omega)]
        congr 1; simp; omega
      rw [e1, e2] at hp2
      simpa using hp2

theorem findSub_bound (pat : List UInt8) : ∀ (s : List UInt8) (k i : Nat), findSub pat s k = some i →
    k ≤ i ∧ (i - k) + pat.length ≤ s.length
  | [], k, i, h => by
    simp only [findSub] at h
    split at h
    · rename_i he
      simp at h; subst h
      have : pat = [] := by simpa using he
      simp [this]
    · cases h
  | c :: cs, k, i, h => by
    simp only [findSub] at h
    split at h
    · rename_i hp
      simp at h; subst h
      have := List.IsPrefix.length_le (List.isPrefixOf_iff_prefix.1 hp)
      simp at this ⊢; omega
    · have := findSub_bound pat cs (k + 1) i h
      simp; omega

end MiniC
