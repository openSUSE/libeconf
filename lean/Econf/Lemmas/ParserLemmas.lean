import Econf.Parser
import Econf.Lemmas.ListLemmas

/-! Helper lemmas about the parser model: one equation per path through `parseLine`, line counter, folding
    over lines, closed set of errors, trailing-comment scan on lines without comment characters. -/


namespace Econf

/-- one trailing line break removed: the shape shared by `lineBody` and `contText` -/
def chomp (o : Str) : Str :=
  match o.getLast? with
  | some l => if l == NL then o.dropLast else o
  | none => o

theorem lineBody_eq (raw : Str) : lineBody raw = (chomp (cstr raw)).dropWhile isSpace := rfl

theorem contText_eq (python : Bool) (comment org : Str) :
    contText python comment org =
      chomp (if python then org else comment.foldl (fun o c => o.takeWhile (· != c)) org) := rfl

theorem chomp_snoc (o : Str) : chomp (o ++ [NL]) = o := by
  simp [chomp]

theorem chomp_of_not_mem (o : Str) (h : NL ∉ o) : chomp o = o := by
  unfold chomp
  cases hl : o.getLast? with
  | none => rfl
  | some l =>
    have : l ≠ NL := fun hh => h (hh ▸ List.mem_of_getLast? hl)
    simp only [beq_false_of_ne this, Bool.false_eq_true, if_false]

theorem parseLine_blank (cfg : Cfg) (st : PState) (raw : Str) (h : lineBody raw = []) :
    parseLine cfg st raw = .ok { st with line := st.line + 1 } := by
  unfold parseLine; simp only [h]

theorem parseLine_comment (cfg : Cfg) (st : PState) (raw : Str) (c : Byte) (text : Str)
    (h : lineBody raw = c :: text) (hc : c ∈ cfg.comment) :
    parseLine cfg st raw = .ok { st with line := st.line + 1, cb := appendComment st.cb text } := by
  have hcc : cfg.comment.contains c = true := by simpa using hc
  unfold parseLine; simp only [h, hcc, if_true]

theorem parseLine_content (cfg : Cfg) (st : PState) (raw body name : Str) (c : Byte) (ca : Option Str)
    (h : lineBody raw = body) (h0 : body.head? = some c) (hc : c ∉ cfg.comment)
    (hs : scanComments cfg.python cfg.comment body st.ca = (name, ca)) :
    parseLine cfg st raw = parseContent cfg { st with line := st.line + 1, ca := ca } (cstr raw) name := by
  cases body with
  | nil => cases h0
  | cons b bs =>
    cases h0
    have hcc : cfg.comment.contains c = false := by simpa using hc
    unfold parseLine
    simp only [h, hcc, Bool.false_eq_true, if_false, hs]

theorem parseContent_sect (cfg : Cfg) (st : PState) (org rest sect : Str) (h : parseSection rest = .ok sect) :
    parseContent cfg st org (LBR :: rest) =
      .ok { st with curGroup := some sect, groups := addGroup st.groups sect } := by
  simp only [parseContent, beq_self_eq_true, if_true, h]

theorem parseContent_sect_error (cfg : Cfg) (st : PState) (org rest : Str) (e : Err) (h : parseSection rest = .error e) :
    parseContent cfg st org (LBR :: rest) = .error e := by
  simp only [parseContent, beq_self_eq_true, if_true, h]

theorem parseContent_keyonly (cfg : Cfg) (st : PState) (org name : Str) (c : Byte)
    (h0 : name.head? = some c) (hl : c ≠ LBR) (hnd : noDelim cfg.delim = true) :
    parseContent cfg st org name = .ok (storeNew st name none false) := by
  cases name with
  | nil => cases h0
  | cons m ms =>
    cases h0
    simp only [parseContent, beq_false_of_ne hl, Bool.false_eq_true, if_false, hnd, if_true]

theorem parseContent_entry (cfg : Cfg) (st : PState) (org name : Str) (c : Byte)
    (h0 : name.head? = some c) (hl : c ≠ LBR) (hnd : noDelim cfg.delim = false) :
    parseContent cfg st org name = parseEntry cfg st org name := by
  cases name with
  | nil => cases h0
  | cons m ms =>
    cases h0
    simp only [parseContent, beq_false_of_ne hl, Bool.false_eq_true, if_false, hnd]

theorem parseEntry_cont (cfg : Cfg) (st : PState) (org name key : Str) (ds : Bool) (data : Str)
    (hs : splitKey cfg.delim name = (key, ds, data)) (hc : isContinuation cfg st org ds data = true) :
    parseEntry cfg st org name = .ok (storeAppend cfg.python st (contText cfg.python cfg.comment org)) := by
  simp only [parseEntry, hs, hc, if_true]

theorem parseEntry_new (cfg : Cfg) (st : PState) (org name key : Str) (ds : Bool) (data : Str)
    (hs : splitKey cfg.delim name = (key, ds, data)) (hc : isContinuation cfg st org ds data = false) (hk : key ≠ []) :
    (∀ v q, parseValue cfg.delim ds data = .ok (v, q) → parseEntry cfg st org name = .ok (storeNew st key v q)) ∧
    (∀ e, parseValue cfg.delim ds data = .error e → parseEntry cfg st org name = .error e) := by
  have hke : key.isEmpty = false := by
    cases key with
    | nil => exact absurd rfl hk
    | cons a as => rfl
  constructor
  · intro v q hv
    simp only [parseEntry, hs, hc, Bool.false_eq_true, if_false, hke, hv]
  · intro e hv
    simp only [parseEntry, hs, hc, Bool.false_eq_true, if_false, hke, hv]

theorem storeNew_line (st : PState) (k : Str) (v : Option Str) (q : Bool) : (storeNew st k v q).line = st.line := rfl

theorem storeAppend_line (py : Bool) (st : PState) (v : Str) : (storeAppend py st v).line = st.line := by
  unfold storeAppend; split <;> rfl

theorem parseLines_append (cfg : Cfg) (st : PState) (pre rest : List Str) :
    parseLines cfg st (pre ++ rest) =
      match parseLines cfg st pre with
      | .ok st' => parseLines cfg st' rest
      | .error e => .error e := by
  induction pre generalizing st with
  | nil => rfl
  | cons l ls ih =>
    simp only [List.cons_append, parseLines]
    cases parseLine cfg st l with
    | error e => rfl
    | ok st1 => exact ih st1

theorem parseLines_single (cfg : Cfg) (st st' : PState) (l : Str) (h : parseLine cfg st l = .ok st') :
    parseLines cfg st [l] = .ok st' := by
  simp only [parseLines, h]

/-- the codes the line parser can fail with; `tie_parser_codes` (Props/Tie.lean) ties this closed set to the source -/
def ParseErr (e : Err) : Prop :=
  e = .missingBracket ∨ e = .missingDelimiter ∨ e = .emptySectionName ∨ e = .textAfterSection

theorem parseSection_err (rest : Str) (e : Err) (h : parseSection rest = .error e) : ParseErr e := by
  unfold parseSection at h
  simp only at h
  split at h
  · cases h; exact Or.inl rfl
  · split at h
    · cases h
      split
      · exact Or.inr (Or.inr (Or.inr rfl))
      · exact Or.inl rfl
    · split at h
      · cases h; exact Or.inr (Or.inr (Or.inl rfl))
      · cases h

theorem skipDelim_err (delim : Str) (ds : Bool) (data : Str) (e : Err) (h : skipDelim delim ds data = .error e) :
    e = .missingDelimiter := by
  unfold skipDelim at h
  simp only at h
  split at h
  · split at h
    · cases h; rfl
    · split at h
      · cases h
      · cases h; rfl
  · split at h
    · split at h
      · cases h
      · split at h <;> cases h
    · cases h

theorem parseValue_err (delim : Str) (ds : Bool) (data : Str) (e : Err) (h : parseValue delim ds data = .error e) :
    e = .missingDelimiter := by
  unfold parseValue at h
  split at h
  · cases h
  · split at h
    · rename_i heq; cases h; exact skipDelim_err _ _ _ _ heq
    · cases h

/-! A line either fails with one of the four documented parse errors or advances the line counter by one; the
    same for the two functions `parseLine` hands the line to (which leave the counter alone). -/

theorem parseEntry_cases (cfg : Cfg) (st : PState) (org name : Str) :
    (∃ e, parseEntry cfg st org name = .error e ∧ ParseErr e) ∨
    ∃ st', parseEntry cfg st org name = .ok st' ∧ st'.line = st.line := by
  unfold parseEntry
  simp only
  split
  · exact .inr ⟨_, rfl, storeAppend_line _ _ _⟩
  · split
    · exact .inr ⟨_, rfl, rfl⟩
    · split
      · rename_i heq
        exact .inl ⟨_, rfl, .inr (.inl (parseValue_err _ _ _ _ heq))⟩
      · exact .inr ⟨_, rfl, rfl⟩

theorem parseContent_cases (cfg : Cfg) (st : PState) (org name : Str) :
    (∃ e, parseContent cfg st org name = .error e ∧ ParseErr e) ∨
    ∃ st', parseContent cfg st org name = .ok st' ∧ st'.line = st.line := by
  unfold parseContent
  split
  · exact .inr ⟨_, rfl, rfl⟩
  · split
    · split
      · rename_i heq
        exact .inl ⟨_, rfl, parseSection_err _ _ heq⟩
      · exact .inr ⟨_, rfl, rfl⟩
    · split
      · exact .inr ⟨_, rfl, rfl⟩
      · exact parseEntry_cases cfg st org _

theorem parseLine_cases (cfg : Cfg) (st : PState) (raw : Str) :
    (∃ e, parseLine cfg st raw = .error e ∧ ParseErr e) ∨
    ∃ st', parseLine cfg st raw = .ok st' ∧ st'.line = st.line + 1 := by
  unfold parseLine
  split
  · exact .inr ⟨_, rfl, rfl⟩
  · split
    · exact .inr ⟨_, rfl, rfl⟩
    · exact parseContent_cases cfg _ _ _

theorem parseLine_line (cfg : Cfg) (st st' : PState) (raw : Str) (h : parseLine cfg st raw = .ok st') :
    st'.line = st.line + 1 := by
  rcases parseLine_cases cfg st raw with ⟨e, he, _⟩ | ⟨s, hs, hl⟩
  · rw [he] at h; cases h
  · rw [hs] at h; cases h; exact hl

/-- C04 / C13: whatever the line contains, a failure is one of the four documented parse errors -/
theorem parseLine_err (cfg : Cfg) (st : PState) (raw : Str) (e : Err) (h : parseLine cfg st raw = .error e) : ParseErr e := by
  rcases parseLine_cases cfg st raw with ⟨e', he, hp⟩ | ⟨s, hs, _⟩
  · rw [he] at h; cases h; exact hp
  · rw [hs] at h; cases h

theorem parseLines_line (cfg : Cfg) (st st' : PState) (ls : List Str) (h : parseLines cfg st ls = .ok st') :
    st'.line = st.line + ls.length := by
  induction ls generalizing st with
  | nil => simp [parseLines] at h; cases h; rfl
  | cons l ls ih =>
    simp only [parseLines] at h
    cases hl : parseLine cfg st l with
    | error e => rw [hl] at h; cases h
    | ok st1 =>
      rw [hl] at h
      have := ih st1 h
      have h1 := parseLine_line cfg st st1 l hl
      simp only [List.length_cons]; omega

theorem parseLines_first_error (cfg : Cfg) (st st1 : PState) (pre : List Str) (bad : Str) (rest : List Str) (e : Err)
    (hpre : parseLines cfg st pre = .ok st1) (hbad : parseLine cfg st1 bad = .error e) :
    parseLines cfg st (pre ++ bad :: rest) = .error (e, st.line + pre.length + 1) := by
  rw [parseLines_append, hpre]
  simp only [parseLines, hbad]
  rw [parseLines_line cfg st st1 pre hpre]

theorem parseLines_err (cfg : Cfg) (st : PState) (ls : List Str) (e : Err) (n : Nat)
    (h : parseLines cfg st ls = .error (e, n)) : ParseErr e ∧ st.line < n ∧ n ≤ st.line + ls.length := by
  induction ls generalizing st with
  | nil => simp [parseLines] at h
  | cons l ls ih =>
    simp only [parseLines] at h
    cases hl : parseLine cfg st l with
    | error e' =>
      rw [hl] at h
      simp only [Except.error.injEq, Prod.mk.injEq] at h
      obtain ⟨rfl, rfl⟩ := h
      exact ⟨parseLine_err _ _ _ _ hl, by omega, by simp⟩
    | ok st1 =>
      rw [hl] at h
      have := ih st1 h
      have h1 := parseLine_line cfg st st1 l hl
      simp only [List.length_cons]
      exact ⟨this.1, by omega, by omega⟩

theorem lastIdx_none_of_not_mem (c : Byte) (l : Str) (h : c ∉ l) : lastIdx c l = none := by
  induction l with
  | nil => rfl
  | cons x xs ih =>
    have hx : x ≠ c := fun hh => h (by simp [hh])
    have hxs : c ∉ xs := fun hh => h (by simp [hh])
    simp [lastIdx, ih hxs, hx]

theorem scanComments_none (python : Bool) (comment name : Str) (ca : Option Str)
    (h : ∀ c ∈ comment, c ∉ name) : scanComments python comment name ca = (name, ca) := by
  unfold scanComments
  induction comment with
  | nil => rfl
  | cons c cs ih =>
    simp only [List.foldl_cons]
    have : scanOne python c name ca = (name, ca) := by
      unfold scanOne
      rw [lastIdx_none_of_not_mem c name (h c List.mem_cons_self)]
    rw [this]
    exact ih (fun c' hc' => h c' (List.mem_cons_of_mem _ hc'))


end Econf
