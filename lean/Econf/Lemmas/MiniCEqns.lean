import Econf.MiniC
import Econf.Lemmas.MiniCAttr

/-!
  The defining equations of the interpreter, stated once.  `exec` and `evalE` recurse through a nested inductive type
  with many cases; asking `simp` to unfold them by name makes Lean derive their equation lemmas again in every module
  (seconds each time).  Proofs use the simp sets `mc_eval` and `mc_exec` instead.
-/

namespace MiniC

attribute [mc_eval] readPlace writePlace bind Except.bind Except.map

section
variable (st : St)

@[mc_eval] theorem evalE_lit (v : Int) (ty : Ty) : evalE (.lit v ty) st = .ok (.int v, st) := rfl
@[mc_eval] theorem evalE_null : evalE .null st = .ok (.null, st) := rfl
@[mc_eval] theorem evalE_load (l : LVal) (ty : Ty) : evalE (.load l ty) st = (do
    let (p, st) ← evalL l st
    let v ← readPlace st ty p
    .ok (v, st)) := rfl
@[mc_eval] theorem evalE_un (op : UnOp) (e : Expr) (ty : Ty) : evalE (.un op e ty) st = (do
    let (v, st) ← evalE e st
    let r ← unop op ty v
    .ok (r, st)) := rfl
@[mc_eval] theorem evalE_bin (op : BinOp) (a b : Expr) (ty : Ty) : evalE (.bin op a b ty) st = (do
    let (x, st) ← evalE a st
    let (y, st) ← evalE b st
    let r ← binop st.mem op ty x y
    .ok (r, st)) := rfl
@[mc_eval] theorem evalE_land (a b : Expr) : evalE (.land a b) st = (do
    let (x, st) ← evalE a st
    if !(← truth x) then .ok (boolVal false, st) else
    let (y, st) ← evalE b st
    .ok (boolVal (← truth y), st)) := rfl
@[mc_eval] theorem evalE_lor (a b : Expr) : evalE (.lor a b) st = (do
    let (x, st) ← evalE a st
    if (← truth x) then .ok (boolVal true, st) else
    let (y, st) ← evalE b st
    .ok (boolVal (← truth y), st)) := rfl
@[mc_eval] theorem evalE_cond (c a b : Expr) : evalE (.cond c a b) st = (do
    let (x, st) ← evalE c st
    if (← truth x) then evalE a st else evalE b st) := rfl
@[mc_eval] theorem evalE_assign (l : LVal) (e : Expr) (ty : Ty) : evalE (.assign l e ty) st = (do
    let (p, st) ← evalL l st
    let (v, st) ← evalE e st
    let v ← convert ty v
    let st ← writePlace st ty p v
    .ok (v, st)) := rfl
@[mc_eval] theorem evalE_opassign (op : BinOp) (l : LVal) (e : Expr) (ty : Ty) : evalE (.opassign op l e ty) st = (do
    let (p, st) ← evalL l st
    let old ← readPlace st ty p
    let (v, st) ← evalE e st
    let r ← binop st.mem op ty old v
    let r ← if ty == .ptr then .ok r else convert ty r
    let st ← writePlace st ty p r
    .ok (r, st)) := rfl
@[mc_eval] theorem evalE_incdec (l : LVal) (inc post : Bool) (ty : Ty) : evalE (.incdec l inc post ty) st = (do
    let (p, st) ← evalL l st
    let old ← readPlace st ty p
    let r ← binop st.mem (if inc then .add else .sub) ty old (.int 1)
    let r ← if ty == .ptr then .ok r else convert ty r
    let st ← writePlace st ty p r
    .ok (if post then old else r, st)) := rfl
@[mc_eval] theorem evalE_cast (ty : Ty) (e : Expr) : evalE (.cast ty e) st = (do
    let (v, st) ← evalE e st
    let r ← convert ty v
    .ok (r, st)) := rfl
@[mc_eval] theorem evalE_call (f : String) (args : Args) : evalE (.call f args) st = (do
    let (vs, st) ← evalArgs args st
    let (r, m) ← builtin f vs st.mem
    .ok (r, { st with mem := m })) := rfl
@[mc_eval] theorem evalE_strlit (bytes : List UInt8) : evalE (.strlit bytes) st =
    .ok (.ptr st.mem.length 0, { st with mem := st.mem ++ [{ cells := (bytes ++ [0]).map some, writable := false }] }) := rfl
@[mc_eval] theorem evalE_sidx (base idx : Expr) (stride : Nat) : evalE (.sidx base idx stride) st = (do
    let (p, st) ← evalE base st
    let (i, st) ← evalE idx st
    match p, i with
    | .ptr b o, .int n => do
      let r ← slotAdd st.mem b o (n * stride)
      .ok (r, st)
    | .null, _ => .error .nullDeref
    | .undef, _ | _, .undef => .error .uninit
    | _, _ => .error (.typeErr "index of a word array")) := rfl

@[mc_eval] theorem evalL_var (i : Nat) : evalL (.var i) st = .ok (.var i, st) := rfl
@[mc_eval] theorem evalL_deref (e : Expr) : evalL (.deref e) st = (do
    let (v, st) ← evalE e st
    match v with
    | .ptr b o => .ok (.mem b o, st)
    | .null => .error .nullDeref
    | .undef => .error .uninit
    | .int _ => .error (.typeErr "dereference of an integer")) := rfl
@[mc_eval] theorem evalL_slot (e : Expr) (k : Nat) : evalL (.slot e k) st = (do
    let (v, st) ← evalE e st
    match v with
    | .ptr b o => .ok (.slot b (o + k), st)
    | .null => .error .nullDeref
    | .undef => .error .uninit
    | .int _ => .error (.typeErr "dereference of an integer")) := rfl

@[mc_eval] theorem evalArgs_nil : evalArgs .nil st = .ok ([], st) := rfl
@[mc_eval] theorem evalArgs_cons (e : Expr) (rest : Args) : evalArgs (.cons e rest) st = (do
    let (v, st) ← evalE e st
    let (vs, st) ← evalArgs rest st
    .ok (v :: vs, st)) := rfl

@[mc_exec] theorem exec_while (fuel : Nat) (c : Expr) (body : Stmt) (st : St) :
    exec fuel (.while c body) st = loop (testOf (some c)) (exec fuel body) (stepOf none) fuel st := rfl
@[mc_exec] theorem exec_for (fuel : Nat) (c inc : Option Expr) (body : Stmt) (st : St) :
    exec fuel (.for c inc body) st = loop (testOf c) (exec fuel body) (stepOf inc) fuel st := rfl

variable (fuel : Nat)

@[mc_exec] theorem exec_skip : exec fuel .skip st = .normal st := rfl
@[mc_exec] theorem exec_expr (e : Expr) : exec fuel (.expr e) st =
    (match evalE e st with
     | .ok (_, st) => .normal st
     | .error f => .fault f) := rfl
@[mc_exec] theorem exec_seq (a b : Stmt) : exec fuel (.seq a b) st =
    (match exec fuel a st with
     | .normal st => exec fuel b st
     | o => o) := rfl
@[mc_exec] theorem exec_ite (c : Expr) (a b : Stmt) : exec fuel (.ite c a b) st =
    (match testOf (some c) st with
     | .error f => .fault f
     | .ok (true, st) => exec fuel a st
     | .ok (false, st) => exec fuel b st) := rfl
@[mc_exec] theorem exec_dowhile (body : Stmt) (c : Expr) : exec fuel (.dowhile body c) st =
    (match exec fuel body st with
     | .normal st | .cont st => loop (testOf (some c)) (exec fuel body) (stepOf none) fuel st
     | .brk st => .normal st
     | o => o) := rfl
@[mc_exec] theorem exec_brk : exec fuel .brk st = .brk st := rfl
@[mc_exec] theorem exec_cont : exec fuel .cont st = .cont st := rfl
@[mc_exec] theorem exec_ret_none : exec fuel (.ret none) st = .ret (.int 0) st := rfl
@[mc_exec] theorem exec_ret_some (e : Expr) : exec fuel (.ret (some e)) st =
    (match evalE e st with
     | .ok (v, st) => .ret v st
     | .error f => .fault f) := rfl
@[mc_exec] theorem exec_inl (dst : Option LVal) (dty : Ty) (args : Args) (nlocals : Nat) (body : Stmt) :
    exec fuel (.inl dst dty args nlocals body) st =
    (match evalArgs args st with
     | .error f => .fault f
     | .ok (vs, st) =>
       let callee : St := { mem := st.mem, loc := vs ++ List.replicate (nlocals - vs.length) .undef }
       let fin (v : Val) (st' : St) : Outcome :=
         let st : St := { mem := st'.mem, loc := st.loc }
         match dst with
         | none => .normal st
         | some l =>
           match evalL l st with
           | .error f => .fault f
           | .ok (p, st) =>
             match (convert dty v).bind (writePlace st dty p) with
             | .ok st => .normal st
             | .error f => .fault f
       match exec fuel body callee with
       | .ret v st' => fin v st'
       | .normal st' => fin .undef st'
       | .brk _ | .cont _ => .fault (.typeErr "break outside a loop")
       | .fault f => .fault f) := rfl
end

/-! ### the libc functions, one equation each (unfolding `builtin` compares the name with every name it knows) -/

section
variable (m : Mem)

theorem builtin_strlen (b : Nat) (o : Int) :
    builtin "strlen" [.ptr b o] m = (do let s ← m.cstr b o; .ok (.int s.length, m)) := rfl
theorem builtin_isspace (c : Int) : builtin "isspace" [.int c] m = .ok (.int (if isSpace c then 1 else 0), m) := rfl
theorem builtin_tolower (c : Int) : builtin "tolower" [.int c] m = .ok (.int (toLower c), m) := rfl
theorem builtin_strstr (b b2 : Nat) (o o2 : Int) : builtin "strstr" [.ptr b o, .ptr b2 o2] m = (do
    let s ← m.cstr b o
    let p ← m.cstr b2 o2
    match findSub p s 0 with
    | some i => .ok (.ptr b (o + i), m)
    | none => .ok (.null, m)) := rfl
theorem builtin_stpcpy (d s : Nat) (od os : Int) : builtin "stpcpy" [.ptr d od, .ptr s os] m = (do
    let bytes ← m.cstr s os
    let m ← m.storeBytes d od (bytes ++ [0])
    .ok (.ptr d (od + bytes.length), m)) := rfl
theorem builtin_strcpy (d s : Nat) (od os : Int) : builtin "strcpy" [.ptr d od, .ptr s os] m = (do
    let bytes ← m.cstr s os
    let m ← m.storeBytes d od (bytes ++ [0])
    .ok (.ptr d od, m)) := rfl
theorem builtin_memcpy (d s : Nat) (od os n : Int) : builtin "memcpy" [.ptr d od, .ptr s os, .int n] m = (do
    let bytes ← m.loadBytes s os n.toNat
    let m ← m.storeBytes d od bytes
    .ok (.ptr d od, m)) := rfl
theorem builtin_memmove (d s : Nat) (od os n : Int) : builtin "memmove" [.ptr d od, .ptr s os, .int n] m = (do
    let bytes ← m.loadBytes s os n.toNat
    let m ← m.storeBytes d od bytes
    .ok (.ptr d od, m)) := rfl
theorem builtin_malloc (n : Int) : builtin "malloc" [.int n] m = .ok (.ptr (m.alloc n.toNat).2 0, (m.alloc n.toNat).1) := rfl
theorem builtin_strdup (b : Nat) (o : Int) : builtin "strdup" [.ptr b o] m = (do
    let s ← m.cstr b o
    let m' ← (m.alloc (s.length + 1)).1.storeBytes (m.alloc (s.length + 1)).2 0 (s ++ [0])
    .ok (.ptr (m.alloc (s.length + 1)).2 0, m')) := rfl
theorem builtin_strcmp (b b2 : Nat) (o o2 : Int) : builtin "strcmp" [.ptr b o, .ptr b2 o2] m = (do
    let s ← m.cstr b o
    let t ← m.cstr b2 o2
    .ok (.int (cmpBytes s t), m)) := rfl
theorem builtin_alloca_words (n : Int) :
    builtin "alloca_words" [.int n] m = .ok (.ptr (m.allocWords n.toNat).2 0, (m.allocWords n.toNat).1) := rfl
theorem builtin_malloc_words (n : Int) :
    builtin "malloc_words" [.int n] m = .ok (.ptr (m.allocWords n.toNat).2 0, (m.allocWords n.toNat).1) := rfl
theorem builtin_copy_words (d s : Nat) (od os n : Int) : builtin "copy_words" [.ptr d od, .ptr s os, .int n] m = (do
    let vs ← m.loadWords s os n.toNat
    let m ← m.storeWords d od vs
    .ok (.ptr d od, m)) := rfl
theorem builtin_realloc_words_null (n : Int) :
    builtin "realloc_words" [.null, .int n] m = .ok (.ptr (m.allocWords n.toNat).2 0, (m.allocWords n.toNat).1) := rfl
theorem builtin_realloc_words (b : Nat) (o n : Int) : builtin "realloc_words" [.ptr b o, .int n] m = (do
    let blk ← m.block b
    if o != 0 then .error .badFree else
    let keep := blk.slots.take n.toNat
    let m := m.set b { blk with live := false }
    .ok (.ptr m.length 0, m ++ [{ cells := [], slots := keep ++ List.replicate (n.toNat - keep.length) .undef }])) := rfl
theorem builtin_free_null : builtin "free" [.null] m = .ok (.int 0, m) := rfl
theorem builtin_free (b : Nat) (o : Int) : builtin "free" [.ptr b o] m = (do
    let blk ← m.block b
    if o != 0 then .error .badFree else
    .ok (.int 0, m.set b { blk with live := false })) := rfl
end

end MiniC
