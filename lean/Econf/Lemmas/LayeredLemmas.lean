import Econf.Layered
import Econf.Lemmas.ParserLemmas

/-! Lemmas about the layered-read model: `gate` and `readFileCB` case by case, what a read does to the
    process-wide state, the trace discipline `traceOk` and its composition, two reads compared; the result
    component of each read function written out (`*_result`), no read fails with the code `success`
    (`*_ne_success`), and the sorted directory listing (`sortNames`). -/

namespace Econf

/-- the security settings of the process-wide state -/
def secOf (g : Global) : Bool × Nat × Bool × Nat × Bool × Bool × Nat × Nat :=
  (g.ownerSet, g.owner, g.groupSet, g.group, g.allowSymlinks, g.permsSet, g.permsFile, g.permsDir)

/-- the process-wide setting reads depend on, apart from the security settings: the drop-in directory
    list.  (The error-location record `errFile`/`errLine` is written by reads but never read by them.) -/
def dataOf (g : Global) : List Str := g.confDirs

/-- the settings part of the process-wide state -/
def settingsOf (g : Global) : (Bool × Nat × Bool × Nat × Bool × Bool × Nat × Nat) × List Str := (secOf g, dataOf g)

theorem parseBytes_err (cfg : Cfg) (content : Str) (e : Err) (n : Nat) (h : parseBytes cfg content = .error (e, n)) : ParseErr e := by
  unfold parseBytes at h
  simp only at h
  split at h
  · rename_i en heq
    cases h
    exact (parseLines_err _ _ _ _ _ heq).1
  · cases h

/-- of the read state, reading an opened file writes the error-location record only -/
theorem readOpened_state (ctx : RdCtx) (s : RdState) (join python : Bool) (a delim comment : Str) :
    ∃ ef el, (readOpened ctx s join python a delim comment).1 = { s with g := { s.g with errFile := ef, errLine := el } } := by
  unfold readOpened
  cases ctx.fs.read a with
  | none => exact ⟨_, _, rfl⟩
  | some content =>
    simp only
    cases parseBytes { delim := delim, comment := comment, python := python, join := join } content with
    | error en => exact ⟨_, _, rfl⟩
    | ok st =>
      simp only
      split <;> exact ⟨_, _, rfl⟩

theorem readOpened_trace (ctx : RdCtx) (s : RdState) (join python : Bool) (a delim comment : Str) :
    (readOpened ctx s join python a delim comment).1.trace = s.trace ∧ (readOpened ctx s join python a delim comment).1.calls = s.calls := by
  obtain ⟨ef, el, h⟩ := readOpened_state ctx s join python a delim comment
  rw [h]
  exact ⟨rfl, rfl⟩

theorem readOpened_settings (ctx : RdCtx) (s : RdState) (join python : Bool) (a delim comment : Str) :
    settingsOf (readOpened ctx s join python a delim comment).1.g = settingsOf s.g := by
  obtain ⟨ef, el, h⟩ := readOpened_state ctx s join python a delim comment
  rw [h]
  rfl

theorem readOpened_spec (ctx : RdCtx) (s : RdState) (join python : Bool) (a delim comment : Str) :
    let r := readOpened ctx s join python a delim comment
    r.1.trace = s.trace ∧ r.1.calls = s.calls ∧
    (r.2 = .error .nofile ∨ (∃ e, r.2 = .error e ∧ ParseErr e) ∨ ∃ kf, r.2 = .ok kf ∧ kf.path = some a) := by
  refine ⟨(readOpened_trace ctx s join python a delim comment).1, (readOpened_trace ctx s join python a delim comment).2, ?_⟩
  unfold readOpened
  cases ctx.fs.read a with
  | none => exact .inl rfl
  | some content =>
    simp only
    cases hp : parseBytes { delim := delim, comment := comment, python := python, join := join } content with
    | error en => exact .inr (.inl ⟨en.1, rfl, parseBytes_err _ _ _ _ hp⟩)
    | ok st => exact .inr (.inr ⟨_, rfl, rfl⟩)

theorem readOpened_result (ctx : RdCtx) (s1 s2 : RdState) (join python : Bool) (a delim comment : Str) :
    (readOpened ctx s1 join python a delim comment).2 = (readOpened ctx s2 join python a delim comment).2 := by
  unfold readOpened
  cases ctx.fs.read a with
  | none => rfl
  | some content =>
    simp only
    cases parseBytes { delim := delim, comment := comment, python := python, join := join } content <;> rfl

section gate
variable (g : Global) (node : Node)

/-! `gate` check by check: a check is reached only when the ones before it pass. -/

theorem gate_link (h1 : (!g.allowSymlinks && isLinkNode node) = true) : gate g node = some .fileIsSymLink :=
  if_pos h1

theorem gate_owner (h1 : (!g.allowSymlinks && isLinkNode node) = false)
    (h2 : (g.ownerSet && (ownerOf node).1 != g.owner) = true) : gate g node = some .wrongOwner := by
  rw [gate, h1, if_neg Bool.false_ne_true, if_pos h2]

theorem gate_group (h1 : (!g.allowSymlinks && isLinkNode node) = false)
    (h2 : (g.ownerSet && (ownerOf node).1 != g.owner) = false)
    (h3 : (g.groupSet && (ownerOf node).2 != g.group) = true) : gate g node = some .wrongGroup := by
  rw [gate, h1, if_neg Bool.false_ne_true, h2, if_neg Bool.false_ne_true, if_pos h3]

theorem gate_perms (h1 : (!g.allowSymlinks && isLinkNode node) = false)
    (h2 : (g.ownerSet && (ownerOf node).1 != g.owner) = false)
    (h3 : (g.groupSet && (ownerOf node).2 != g.group) = false) :
    gate g node =
      if g.permsSet && (modeOf node &&& g.permsFile) == 0 then some .wrongFilePermission
      else if g.permsSet && (DIRMODE &&& g.permsDir) == 0 then some .wrongDirPermission else none := by
  rw [gate, h1, if_neg Bool.false_ne_true, h2, if_neg Bool.false_ne_true, h3, if_neg Bool.false_ne_true]

theorem gate_pass (h1 : (!g.allowSymlinks && isLinkNode node) = false)
    (h2 : (g.ownerSet && (ownerOf node).1 != g.owner) = false)
    (h3 : (g.groupSet && (ownerOf node).2 != g.group) = false) (hp : g.permsSet = false) : gate g node = none := by
  rw [gate_perms g node h1 h2 h3, hp]
  rfl

/-- Either one of the rules on link, owner and group refuses the file, under every permission
    requirement, or the gate is the permission requirement. -/
theorem gate_rules :
    (∃ e, (e = .fileIsSymLink ∨ e = .wrongOwner ∨ e = .wrongGroup) ∧
      ∀ ps pf pd, gate { g with permsSet := ps, permsFile := pf, permsDir := pd } node = some e) ∨
    (∀ ps pf pd, gate { g with permsSet := ps, permsFile := pf, permsDir := pd } node =
      if ps && (modeOf node &&& pf) == 0 then some .wrongFilePermission
      else if ps && (DIRMODE &&& pd) == 0 then some .wrongDirPermission else none) := by
  cases h1 : (!g.allowSymlinks && isLinkNode node) with
  | true => exact .inl ⟨_, .inl rfl, fun _ _ _ => gate_link _ node h1⟩
  | false =>
    cases h2 : (g.ownerSet && (ownerOf node).1 != g.owner) with
    | true => exact .inl ⟨_, .inr (.inl rfl), fun _ _ _ => gate_owner _ node h1 h2⟩
    | false =>
      cases h3 : (g.groupSet && (ownerOf node).2 != g.group) with
      | true => exact .inl ⟨_, .inr (.inr rfl), fun _ _ _ => gate_group _ node h1 h2 h3⟩
      | false => exact .inr fun _ _ _ => gate_perms _ node h1 h2 h3

end gate

/-- the codes the gate can hand out -/
theorem gate_codes (g : Global) (node : Node) (e : Err) (h : gate g node = some e) :
    e = .fileIsSymLink ∨ e = .wrongOwner ∨ e = .wrongGroup ∨ e = .wrongFilePermission ∨ e = .wrongDirPermission := by
  rcases gate_rules g node with ⟨e', he, hr⟩ | hr
  · cases (hr g.permsSet g.permsFile g.permsDir).symm.trans h
    rcases he with he | he | he
    · exact .inl he
    · exact .inr (.inl he)
    · exact .inr (.inr (.inl he))
  · have hp := (hr g.permsSet g.permsFile g.permsDir).symm.trans h
    split at hp
    · cases hp; exact .inr (.inr (.inr (.inl rfl)))
    · split at hp
      · cases hp; exact .inr (.inr (.inr (.inr rfl)))
      · cases hp

theorem gate_settingsOf {g1 g2 : Global} (h : settingsOf g1 = settingsOf g2) (node : Node) : gate g1 node = gate g2 node := by
  have h := congrArg Prod.fst h
  unfold settingsOf secOf at h
  simp only [Prod.mk.injEq] at h
  unfold gate
  rw [h.1, h.2.1, h.2.2.1, h.2.2.2.1, h.2.2.2.2.1, h.2.2.2.2.2.1, h.2.2.2.2.2.2.1, h.2.2.2.2.2.2.2]

theorem gate_agree_of_settings {fs : FS} {s1 s2 t1 t2 : RdState} (h1 : settingsOf t1.g = settingsOf s1.g)
    (h2 : settingsOf t2.g = settingsOf s2.g) (hg : ∀ p node, fs.lstat p = some node → gate s1.g node = gate s2.g node) :
    ∀ p node, fs.lstat p = some node → gate t1.g node = gate t2.g node := by
  intro p node hn
  rw [gate_settingsOf h1, gate_settingsOf h2]
  exact hg p node hn

def accepts (cb : Callback) (calls : Nat) (path : Str) : Bool :=
  match cb with
  | none => true
  | some f => f calls path

theorem askCallback_g (cb : Callback) (s : RdState) (path : Str) : (askCallback cb s path).1.g = s.g := by
  cases cb <;> rfl

theorem askCallback_acc (cb : Callback) (s : RdState) (path : Str) : (askCallback cb s path).2 = accepts cb s.calls path := by
  cases cb <;> rfl

section readFileCB
variable (ctx : RdCtx) {s : RdState} {join python : Bool} {path delim comment : Str} {node : Node}

theorem readFileCB_absent (hl : ctx.fs.lstat path = none) :
    readFileCB ctx s join python path delim comment = (s, .error .nofile) := by
  rw [readFileCB, hl]

theorem readFileCB_refused {e : Err} (hl : ctx.fs.lstat path = some node) (hg : gate s.g node = some e) :
    readFileCB ctx s join python path delim comment = (s, .error e) := by
  rw [readFileCB, hl]
  simp only [hg]

theorem readFileCB_rejected (hl : ctx.fs.lstat path = some node) (hg : gate s.g node = none)
    (ha : accepts ctx.cb s.calls path = false) :
    readFileCB ctx s join python path delim comment = ((askCallback ctx.cb s path).1, .error .parsingCallbackFailed) := by
  rw [readFileCB, hl]
  simp only [hg]
  rw [← askCallback_acc] at ha
  rw [ha]
  rfl

theorem readFileCB_unresolved (hl : ctx.fs.lstat path = some node) (hg : gate s.g node = none)
    (ha : accepts ctx.cb s.calls path = true) (hp : absPath ctx.fs path = none) :
    readFileCB ctx s join python path delim comment = ((askCallback ctx.cb s path).1, .error .nofile) := by
  rw [readFileCB, hl]
  simp only [hg]
  rw [← askCallback_acc] at ha
  rw [ha, hp]
  rfl

theorem readFileCB_opened {abs : Str} (hl : ctx.fs.lstat path = some node) (hg : gate s.g node = none)
    (ha : accepts ctx.cb s.calls path = true) (hp : absPath ctx.fs path = some abs) :
    readFileCB ctx s join python path delim comment =
      readOpened ctx { (askCallback ctx.cb s path).1 with trace := (askCallback ctx.cb s path).1.trace ++ [Event.openFile abs] }
        join python abs delim comment := by
  rw [readFileCB, hl]
  simp only [hg]
  rw [← askCallback_acc] at ha
  rw [ha, hp]
  rfl

end readFileCB

theorem C06_file (fs : FS) (f : Nat → Str → Bool) (s : RdState) (join python : Bool) (path delim comment : Str) :
    let r := readFileCB { fs := fs, cb := some f } s join python path delim comment
    (r.1.trace = s.trace ∧ r.1.calls = s.calls ∧ (∃ e, r.2 = .error e ∧ e ≠ .parsingCallbackFailed)) ∨
    (r.1.trace = s.trace ++ [Event.cb path] ∧ r.1.calls = s.calls + 1 ∧ f s.calls path = false ∧ r.2 = .error .parsingCallbackFailed) ∨
    (r.1.trace = s.trace ++ [Event.cb path] ∧ r.1.calls = s.calls + 1 ∧ f s.calls path = true ∧ r.2 = .error .nofile) ∨
    (∃ a, absPath fs path = some a ∧ r.1.trace = s.trace ++ [Event.cb path, Event.openFile a] ∧ r.1.calls = s.calls + 1 ∧
      f s.calls path = true ∧ (r.2 = .error .nofile ∨ (∃ e, r.2 = .error e ∧ ParseErr e) ∨ ∃ kf, r.2 = .ok kf ∧ kf.path = some a)) := by
  intro r
  simp only [r]
  cases hl : fs.lstat path with
  | none =>
    rw [readFileCB_absent ⟨fs, some f⟩ hl]
    exact .inl ⟨rfl, rfl, _, rfl, by decide⟩
  | some node =>
    cases hg : gate s.g node with
    | some e =>
      rw [readFileCB_refused ⟨fs, some f⟩ hl hg]
      refine .inl ⟨rfl, rfl, _, rfl, ?_⟩
      rcases gate_codes _ _ _ hg with h | h | h | h | h <;> (rw [h]; decide)
    | none =>
      cases hf : f s.calls path with
      | false =>
        rw [readFileCB_rejected ⟨fs, some f⟩ hl hg hf]
        exact .inr (.inl ⟨rfl, rfl, rfl, rfl⟩)
      | true =>
        cases ha : absPath fs path with
        | none =>
          rw [readFileCB_unresolved ⟨fs, some f⟩ hl hg hf ha]
          exact .inr (.inr (.inl ⟨rfl, rfl, rfl, rfl⟩))
        | some a =>
          rw [readFileCB_opened ⟨fs, some f⟩ hl hg hf ha]
          have ⟨ht, hc, hres⟩ := readOpened_spec ⟨fs, some f⟩
            { g := s.g, trace := s.trace ++ [Event.cb path] ++ [Event.openFile a], calls := s.calls + 1 } join python a delim comment
          exact .inr (.inr (.inr ⟨a, rfl, ht.trans (List.append_assoc ..), hc, rfl, hres⟩))

theorem readFileCB_settings (ctx : RdCtx) (s : RdState) (join python : Bool) (path delim comment : Str) :
    settingsOf (readFileCB ctx s join python path delim comment).1.g = settingsOf s.g := by
  have ha := askCallback_g ctx.cb s path
  fun_cases readFileCB ctx s join python path delim comment
  · rfl
  · rfl
  · rename_i hq _
    rw [hq] at ha
    exact congrArg settingsOf ha
  · rename_i hq _ _
    rw [hq] at ha
    exact congrArg settingsOf ha
  · rename_i hq _ _ _
    rw [hq] at ha
    exact (readOpened_settings ..).trans (congrArg settingsOf ha)

theorem readFileCB_settings_of_eq (ctx : RdCtx) {s s' : RdState} {join python : Bool} {path delim comment : Str}
    {r : Except Err KeyFile} (h : readFileCB ctx s join python path delim comment = (s', r)) :
    settingsOf s'.g = settingsOf s.g := by
  have hs := readFileCB_settings ctx s join python path delim comment
  rw [h] at hs
  exact hs

theorem readFileCB_sim (fs : FS) (cb1 cb2 : Callback) (s1 s2 : RdState) (join python : Bool) (path delim comment : Str)
    (hg : ∀ node, fs.lstat path = some node → gate s1.g node = gate s2.g node)
    (ha : accepts cb1 s1.calls path = accepts cb2 s2.calls path) :
    (readFileCB ⟨fs, cb1⟩ s1 join python path delim comment).2 = (readFileCB ⟨fs, cb2⟩ s2 join python path delim comment).2 := by
  cases hl : fs.lstat path with
  | none => rw [readFileCB_absent ⟨fs, cb1⟩ hl, readFileCB_absent ⟨fs, cb2⟩ hl]
  | some node =>
    have hg2 := hg node hl
    cases hg1 : gate s1.g node with
    | some e =>
      rw [hg1] at hg2
      rw [readFileCB_refused ⟨fs, cb1⟩ hl hg1, readFileCB_refused ⟨fs, cb2⟩ hl hg2.symm]
    | none =>
      rw [hg1] at hg2
      cases ha1 : accepts cb1 s1.calls path with
      | false =>
        rw [ha1] at ha
        rw [readFileCB_rejected ⟨fs, cb1⟩ hl hg1 ha1, readFileCB_rejected ⟨fs, cb2⟩ hl hg2.symm ha.symm]
      | true =>
        rw [ha1] at ha
        cases hp : absPath fs path with
        | none => rw [readFileCB_unresolved ⟨fs, cb1⟩ hl hg1 ha1 hp, readFileCB_unresolved ⟨fs, cb2⟩ hl hg2.symm ha.symm hp]
        | some abs =>
          rw [readFileCB_opened ⟨fs, cb1⟩ hl hg1 ha1 hp, readFileCB_opened ⟨fs, cb2⟩ hl hg2.symm ha.symm hp]
          exact readOpened_result _ _ _ _ _ _ _ _

/-- the paths the callback was asked about, in order -/
def cbPaths : List Event → List Str
  | [] => []
  | .cb p :: r => p :: cbPaths r
  | .openFile _ :: r => cbPaths r

/-- number of callback calls in the trace -/
def cbCount (t : List Event) : Nat := (cbPaths t).length

/-- all callback calls of the trace were accepted (`k` = index of the first one) -/
def allAccepted (f : Nat → Str → Bool) : Nat → List Event → Bool
  | _, [] => true
  | k, .cb p :: r => f k p && allAccepted f (k + 1) r
  | k, .openFile _ :: r => allAccepted f k r

/-- the trace discipline of C06: every open is directly preceded by an accepting callback call for
    exactly that file (`pend` = the path just accepted and not yet opened), and nothing at all
    follows a rejecting call -/
def traceOk (fs : FS) (f : Nat → Str → Bool) : Nat → Option Str → List Event → Bool
  | _, _, [] => true
  | k, _, .cb p :: rest => if f k p then traceOk fs f (k + 1) (some p) rest else rest.isEmpty
  | k, some p, .openFile a :: rest => (absPath fs p == some a) && traceOk fs f k none rest
  | _, none, .openFile _ :: _ => false

/-- the trace does not begin with an open: what a read appends can follow any `traceOk` trace without a pending path -/
def startsWithCb : List Event → Bool
  | [] => true
  | .cb _ :: _ => true
  | .openFile _ :: _ => false

theorem cbPaths_append (a b : List Event) : cbPaths (a ++ b) = cbPaths a ++ cbPaths b := by
  induction a with
  | nil => rfl
  | cons e es ih => cases e <;> simp [cbPaths, ih]

theorem cbCount_append (a b : List Event) : cbCount (a ++ b) = cbCount a + cbCount b := by
  simp [cbCount, cbPaths_append]

theorem add_cbCount_cb (k : Nat) (p : Str) (es : List Event) : k + cbCount (Event.cb p :: es) = k + 1 + cbCount es := by
  simp only [cbCount, cbPaths, List.length_cons]
  omega

theorem traceOk_append (fs : FS) (f : Nat → Str → Bool) (k : Nat) (pend : Option Str) (a b : List Event)
    (ha : traceOk fs f k pend a = true) (hacc : allAccepted f k a = true) (hb : startsWithCb b = true)
    (hbok : traceOk fs f (k + cbCount a) none b = true) : traceOk fs f k pend (a ++ b) = true := by
  induction a generalizing k pend with
  | nil =>
    -- a block that starts with a callback call does not look at the pending path
    cases b with
    | nil => rfl
    | cons e es =>
      cases e with
      | cb p => exact hbok
      | openFile a => cases hb
  | cons e es ih =>
    cases e with
    | cb p =>
      simp only [allAccepted, Bool.and_eq_true] at hacc
      simp only [traceOk, hacc.1, if_true] at ha
      simp only [List.cons_append, traceOk, hacc.1, if_true]
      rw [add_cbCount_cb] at hbok
      exact ih (k + 1) (some p) ha hacc.2 hbok
    | openFile a' =>
      cases pend with
      | none => simp [traceOk] at ha
      | some p =>
        simp only [traceOk, Bool.and_eq_true] at ha
        simp only [List.cons_append, traceOk, Bool.and_eq_true]
        have hacc2 : allAccepted f k es = true := by simpa [allAccepted] using hacc
        exact ⟨ha.1, ih k none ha.2 hacc2 hbok⟩

/-- what a read of `paths` from state `s` to `s'` adds to the trace (the conclusion of C06): events `evs` that keep the
    discipline `traceOk`, ask the callback about a sub-sequence of `paths` in order and count its calls; every call was
    accepted unless the read failed on the callback (`failedCb`), and then the rejected call is the last event -/
def SeqSpec (fs : FS) (f : Nat → Str → Bool) (s s' : RdState) (paths : List Str) (failedCb : Bool) : Prop :=
  ∃ evs : List Event,
    s'.trace = s.trace ++ evs ∧
    s'.calls = s.calls + cbCount evs ∧
    traceOk fs f s.calls none evs = true ∧
    startsWithCb evs = true ∧
    (cbPaths evs).Sublist paths ∧
    (failedCb = false → allAccepted f s.calls evs = true) ∧
    (failedCb = true → ∃ pre p, evs = pre ++ [Event.cb p] ∧ allAccepted f s.calls pre = true ∧ f (s.calls + cbCount pre) p = false)

def isCbFailed {α} : Except Err α → Bool
  | .error .parsingCallbackFailed => true
  | _ => false

theorem allAccepted_append (f : Nat → Str → Bool) (k : Nat) (a b : List Event) :
    allAccepted f k (a ++ b) = (allAccepted f k a && allAccepted f (k + cbCount a) b) := by
  induction a generalizing k with
  | nil => simp [allAccepted, cbCount, cbPaths]
  | cons e es ih =>
    cases e with
    | cb p =>
      rw [add_cbCount_cb]
      simp only [List.cons_append, allAccepted, ih, Bool.and_assoc]
    | openFile a => exact ih k

theorem isCbFailed_err {α β : Type} (e : Err) : isCbFailed (Except.error e : Except Err α) = isCbFailed (Except.error e : Except Err β) := by
  cases e <;> rfl

theorem seqSpec_refl (fs : FS) (f : Nat → Str → Bool) (s : RdState) (paths : List Str) : SeqSpec fs f s s paths false :=
  ⟨[], (List.append_nil _).symm, rfl, rfl, rfl, List.nil_sublist _, fun _ => rfl, fun h => by cases h⟩

theorem seqSpec_weaken {fs : FS} {f : Nat → Str → Bool} {s s' : RdState} {p q : List Str} {fl : Bool}
    (h : SeqSpec fs f s s' p fl) (hs : p.Sublist q) : SeqSpec fs f s s' q fl := by
  obtain ⟨e, a, b, c, d, sub, g, i⟩ := h
  exact ⟨e, a, b, c, d, sub.trans hs, g, i⟩

theorem seqSpec_trans {fs : FS} {f : Nat → Str → Bool} {s s1 s2 : RdState} {p1 p2 : List Str} {fl : Bool}
    (h1 : SeqSpec fs f s s1 p1 false) (h2 : SeqSpec fs f s1 s2 p2 fl) : SeqSpec fs f s s2 (p1 ++ p2) fl := by
  obtain ⟨e1, t1, c1, ok1, st1, sub1, acc1, _⟩ := h1
  obtain ⟨e2, t2, c2, ok2, st2, sub2, acc2, rej2⟩ := h2
  have hacc1 := acc1 rfl
  refine ⟨e1 ++ e2, by rw [t2, t1, List.append_assoc], by rw [c2, c1, cbCount_append, Nat.add_assoc], ?_, ?_, ?_, ?_, ?_⟩
  · apply traceOk_append fs f s.calls none e1 e2 ok1 hacc1 st2
    rw [← c1]; exact ok2
  · cases e1 with
    | nil => exact st2
    | cons x xs => cases x <;> first | rfl | cases st1
  · rw [cbPaths_append]; exact List.Sublist.append sub1 sub2
  · intro hfl
    rw [allAccepted_append, hacc1, ← c1, acc2 hfl]; rfl
  · intro hfl
    obtain ⟨pre, p, he, hpa, hpf⟩ := rej2 hfl
    refine ⟨e1 ++ pre, p, by rw [he, List.append_assoc], ?_, ?_⟩
    · rw [allAccepted_append, hacc1, ← c1, hpa]; rfl
    · rw [cbCount_append, ← Nat.add_assoc, ← c1]; exact hpf

/-- a single-file read in terms of `SeqSpec`: the four outcomes of `C06_file` -/
theorem seqSpec_file {fs : FS} {f : Nat → Str → Bool} {s : RdState} {join python : Bool} {path delim comment : Str}
    {s' : RdState} {r : Except Err KeyFile} (h : readFileCB { fs := fs, cb := some f } s join python path delim comment = (s', r)) :
    SeqSpec fs f s s' [path] (isCbFailed r) := by
  have hc := C06_file fs f s join python path delim comment
  simp only [h] at hc
  rcases hc with ⟨ht, hc, e, he, hne⟩ | ⟨ht, hc, hf, hr⟩ | ⟨ht, hc, hf, hr⟩ | ⟨a, ha, ht, hc, hf, hr⟩
  · have hfail : isCbFailed r = false := by
      rw [he]
      cases e <;> first | rfl | exact absurd rfl hne
    rw [hfail]
    exact ⟨[], ht.trans (List.append_nil _).symm, hc, rfl, rfl, List.nil_sublist _, fun _ => rfl, fun h => by cases h⟩
  · rw [hr]
    have hok : traceOk fs f s.calls none [Event.cb path] = true := by simp only [traceOk, hf]; rfl
    exact ⟨[Event.cb path], ht, hc, hok, rfl, List.Sublist.refl _, (fun h => by cases h), fun _ => ⟨[], path, rfl, rfl, hf⟩⟩
  · rw [hr]
    have hok : traceOk fs f s.calls none [Event.cb path] = true := by simp only [traceOk, hf]; rfl
    have hacc : allAccepted f s.calls [Event.cb path] = true := by simp only [allAccepted, hf]; rfl
    exact ⟨[Event.cb path], ht, hc, hok, rfl, List.Sublist.refl _, fun _ => hacc, fun h => by cases h⟩
  · have hfail : isCbFailed r = false := by
      rcases hr with hr | ⟨e, hr, hpe⟩ | ⟨kf, hr, _⟩
      · rw [hr]; rfl
      · rw [hr]; rcases hpe with rfl | rfl | rfl | rfl <;> rfl
      · rw [hr]; rfl
    rw [hfail]
    have hok : traceOk fs f s.calls none [Event.cb path, Event.openFile a] = true := by
      simp only [traceOk, hf, ha, beq_self_eq_true]; rfl
    have hacc : allAccepted f s.calls [Event.cb path, Event.openFile a] = true := by simp only [allAccepted, hf]; rfl
    exact ⟨[Event.cb path, Event.openFile a], ht, hc, hok, rfl, List.Sublist.refl _, fun _ => hacc, fun h => by cases h⟩

theorem seqSpec_head {fs : FS} {f : Nat → Str → Bool} {s s' : RdState} {p : Str} {ps : List Str} {fl : Bool}
    (h : SeqSpec fs f s s' [p] fl) : SeqSpec fs f s s' (p :: ps) fl :=
  seqSpec_weaken h ((List.nil_sublist ps).cons_cons p)

section sequences
variable (ctx : RdCtx) {join python : Bool} {delim comment : Str} {s s' : RdState} {p : Str}

theorem readFirst_cons_ok {kf : KeyFile} (ps : List Str) (h : readFileCB ctx s join python p delim comment = (s', .ok kf)) :
    readFirst ctx join python delim comment s (p :: ps) = (s', .ok (some kf)) := by
  rw [readFirst, h]

theorem readFirst_cons_nofile (ps : List Str) (h : readFileCB ctx s join python p delim comment = (s', .error .nofile)) :
    readFirst ctx join python delim comment s (p :: ps) = readFirst ctx join python delim comment s' ps := by
  rw [readFirst, h]

theorem readFirst_cons_error {e : Err} (ps : List Str) (h : readFileCB ctx s join python p delim comment = (s', .error e))
    (hn : e ≠ .nofile) : readFirst ctx join python delim comment s (p :: ps) = (s', .error e) := by
  rw [readFirst, h]
  cases e <;> first | rfl | exact absurd rfl hn

theorem readSeq_cons_error {e : Err} (ps : List Str) (h : readFileCB ctx s join python p delim comment = (s', .error e)) :
    readSeq ctx join python delim comment s (p :: ps) = (s', .error e) := by
  rw [readSeq, h]

theorem readSeq_cons_ok {kf : KeyFile} (ps : List Str) (h : readFileCB ctx s join python p delim comment = (s', .ok kf)) :
    readSeq ctx join python delim comment s (p :: ps) =
      ((readSeq ctx join python delim comment s' ps).1, (readSeq ctx join python delim comment s' ps).2.map (kf :: ·)) := by
  rw [readSeq, h]
  simp only
  obtain ⟨t, r⟩ := readSeq ctx join python delim comment s' ps
  cases r <;> rfl

end sequences

/-- `readSeq`: the callback sees a sub-sequence of the paths in order; a rejection ends the read -/
theorem readSeq_spec (fs : FS) (f : Nat → Str → Bool) (join python : Bool) (delim comment : Str) (s : RdState) (paths : List Str) :
    let r := readSeq { fs := fs, cb := some f } join python delim comment s paths
    SeqSpec fs f s r.1 paths (isCbFailed r.2) := by
  fun_induction readSeq ⟨fs, some f⟩ join python delim comment s paths
  · exact seqSpec_refl fs f _ []
  · rename_i hr
    exact seqSpec_head (isCbFailed_err (α := KeyFile) _ ▸ seqSpec_file hr)
  · rename_i hr hr2 ih
    rw [hr2] at ih
    exact seqSpec_trans (p1 := [_]) (seqSpec_file hr) ih
  · rename_i hr hr2 ih
    rw [hr2] at ih
    exact seqSpec_trans (p1 := [_]) (seqSpec_file hr) ih

/-- `readFirst` (main file search) -/
theorem readFirst_spec (fs : FS) (f : Nat → Str → Bool) (join python : Bool) (delim comment : Str) (s : RdState) (paths : List Str) :
    let r := readFirst { fs := fs, cb := some f } join python delim comment s paths
    SeqSpec fs f s r.1 paths (isCbFailed r.2) := by
  fun_induction readFirst ⟨fs, some f⟩ join python delim comment s paths
  · exact seqSpec_refl fs f _ []
  · rename_i hr
    exact seqSpec_head (seqSpec_file hr)
  · rename_i hr ih
    exact seqSpec_trans (p1 := [_]) (seqSpec_file hr) ih
  · rename_i hr
    exact seqSpec_head (isCbFailed_err (α := KeyFile) _ ▸ seqSpec_file hr)

theorem readFirst_settings (ctx : RdCtx) (join python : Bool) (delim comment : Str) (s : RdState) (paths : List Str) :
    settingsOf (readFirst ctx join python delim comment s paths).1.g = settingsOf s.g := by
  fun_induction readFirst ctx join python delim comment s paths
  · rfl
  · rename_i hr
    exact readFileCB_settings_of_eq ctx hr
  · rename_i hr ih
    exact ih.trans (readFileCB_settings_of_eq ctx hr)
  · rename_i hr
    exact readFileCB_settings_of_eq ctx hr

theorem readSeq_settings (ctx : RdCtx) (join python : Bool) (delim comment : Str) (s : RdState) (paths : List Str) :
    settingsOf (readSeq ctx join python delim comment s paths).1.g = settingsOf s.g := by
  fun_induction readSeq ctx join python delim comment s paths
  · rfl
  · rename_i hr
    exact readFileCB_settings_of_eq ctx hr
  all_goals
    rename_i hr hr2 ih
    rw [hr2] at ih
    exact ih.trans (readFileCB_settings_of_eq ctx hr)

section sim
variable (fs : FS) (cb1 cb2 : Callback) (join python : Bool) (delim comment : Str)
  (ha : ∀ k1 k2 p, accepts cb1 k1 p = accepts cb2 k2 p)
include ha

/-! Two reads of the same paths from states whose gates agree on every file, with callbacks that decide alike. -/

theorem readFileCB_sim_step (p : Str) (s1 s2 : RdState)
    (hg : ∀ p node, fs.lstat p = some node → gate s1.g node = gate s2.g node) :
    ∃ t1 t2 r, readFileCB ⟨fs, cb1⟩ s1 join python p delim comment = (t1, r) ∧
      readFileCB ⟨fs, cb2⟩ s2 join python p delim comment = (t2, r) ∧
      ∀ q node, fs.lstat q = some node → gate t1.g node = gate t2.g node :=
  ⟨_, _, _, rfl, Prod.ext rfl (readFileCB_sim fs cb1 cb2 s1 s2 join python p delim comment (hg p) (ha _ _ _)).symm,
    gate_agree_of_settings (readFileCB_settings ..) (readFileCB_settings ..) hg⟩

theorem readFirst_sim (paths : List Str) (s1 s2 : RdState)
    (hg : ∀ p node, fs.lstat p = some node → gate s1.g node = gate s2.g node) :
    (readFirst ⟨fs, cb1⟩ join python delim comment s1 paths).2 = (readFirst ⟨fs, cb2⟩ join python delim comment s2 paths).2 := by
  induction paths generalizing s1 s2 with
  | nil => rfl
  | cons p ps ih =>
    obtain ⟨t1, t2, r, h1, h2, hg'⟩ := readFileCB_sim_step fs cb1 cb2 join python delim comment ha p s1 s2 hg
    cases r with
    | ok kf => rw [readFirst_cons_ok _ ps h1, readFirst_cons_ok _ ps h2]
    | error e =>
      by_cases hn : e = .nofile
      · subst hn
        rw [readFirst_cons_nofile _ ps h1, readFirst_cons_nofile _ ps h2]
        exact ih _ _ hg'
      · rw [readFirst_cons_error _ ps h1 hn, readFirst_cons_error _ ps h2 hn]

theorem readSeq_sim (paths : List Str) (s1 s2 : RdState)
    (hg : ∀ p node, fs.lstat p = some node → gate s1.g node = gate s2.g node) :
    (readSeq ⟨fs, cb1⟩ join python delim comment s1 paths).2 = (readSeq ⟨fs, cb2⟩ join python delim comment s2 paths).2 := by
  induction paths generalizing s1 s2 with
  | nil => rfl
  | cons p ps ih =>
    obtain ⟨t1, t2, r, h1, h2, hg'⟩ := readFileCB_sim_step fs cb1 cb2 join python delim comment ha p s1 s2 hg
    cases r with
    | error e => rw [readSeq_cons_error _ ps h1, readSeq_cons_error _ ps h2]
    | ok kf =>
      rw [readSeq_cons_ok _ ps h1, readSeq_cons_ok _ ps h2]
      exact congrArg (Except.map (kf :: ·)) (ih _ _ hg')

end sim

/-- `readHistory` past its argument checks, on the main-file candidates and drop-in paths it computes -/
def readLayers (ctx : RdCtx) (join python : Bool) (delim comment : Str) (s : RdState) (mains drops : List Str) :
    RdState × Except (Err × Bool) (List KeyFile) :=
  let (s, main) := readFirst ctx join python delim comment s mains
  match main with
  | .error e => (s, .error (e, false))
  | .ok main =>
    let (s, r) := readSeq ctx join python delim comment s drops
    match r with
    | .error e => (s, .error (e, true))
    | .ok ds => if (main.toList ++ ds).isEmpty then (s, .error (.nofile, true)) else (s, .ok (main.toList ++ ds))

/-- `readHistory` past its argument checks is `readLayers` on the main-file candidates (none for an empty name)
    and drop-in paths it computes -/
theorem readHistory_eq (ctx : RdCtx) (s : RdState) (dirs : List Str) (nm : Str) (suffix : Option Str) (d comment : Str)
    (join python : Bool) (confDirs : List Str) :
    readHistory ctx s dirs (some nm) suffix (some d) comment join python confDirs =
      readLayers ctx join python d comment s (if nm.isEmpty then [] else mainCandidates dirs nm (dotSuffix (some nm) suffix))
        (dropinPaths ctx.fs dirs nm (dotSuffix (some nm) suffix)
          (if confDirs.isEmpty then [dotSuffix (some nm) suffix ++ [0x2e, 0x64]] else confDirs)) := by
  unfold readHistory readLayers
  simp only
  cases nm.isEmpty <;> rfl

theorem readHistory_nonempty (ctx : RdCtx) (s : RdState) (dirs : List Str) (name suffix delim : Option Str) (comment : Str)
    (join python : Bool) (confDirs : List Str) (files : List KeyFile)
    (h : (readHistory ctx s dirs name suffix delim comment join python confDirs).2 = .ok files) : files ≠ [] := by
  cases delim with
  | none => cases h
  | some dl =>
    cases name with
    | none => cases h
    | some nm =>
      rw [readHistory_eq] at h
      revert h
      fun_cases readLayers ctx join python dl comment s _ _
      · intro h; cases h
      · intro h; cases h
      · intro h; cases h
      · rename_i he _ _
        intro h hh
        cases h
        exact he (by rw [hh]; rfl)

theorem readLayers_result (ctx : RdCtx) (join python : Bool) (delim comment : Str) (s : RdState) (mains drops : List Str) :
    (readLayers ctx join python delim comment s mains drops).2 =
      match (readFirst ctx join python delim comment s mains).2 with
      | .error e => .error (e, false)
      | .ok main =>
        match (readSeq ctx join python delim comment (readFirst ctx join python delim comment s mains).1 drops).2 with
        | .error e => .error (e, true)
        | .ok ds => if (main.toList ++ ds).isEmpty then .error (.nofile, true) else .ok (main.toList ++ ds) := by
  fun_cases readLayers ctx join python delim comment s mains drops
  · rename_i hm
    rw [hm]
  · rename_i hm hd
    rw [hm]
    simp only [hd]
  · rename_i he hm hd
    rw [hm]
    simp only [hd, he, if_true]
  · rename_i he hm hd
    rw [hm]
    simp only [hd, he]
    rfl

theorem readLayers_settings (ctx : RdCtx) (join python : Bool) (delim comment : Str) (s : RdState) (mains drops : List Str) :
    settingsOf (readLayers ctx join python delim comment s mains drops).1.g = settingsOf s.g := by
  have hm := readFirst_settings ctx join python delim comment s mains
  have hmd := (readSeq_settings ctx join python delim comment (readFirst ctx join python delim comment s mains).1 drops).trans hm
  fun_cases readLayers ctx join python delim comment s mains drops
  · rename_i h
    rw [h] at hm
    exact hm
  all_goals
    rename_i h1 h2
    rw [h1, h2] at hmd
    exact hmd

/-- two history reads from related states agree when gates and callbacks decide alike on every
    path that can be consulted -/
theorem readHistory_sim (fs : FS) (cb1 cb2 : Callback) (ha : ∀ k1 k2 p, accepts cb1 k1 p = accepts cb2 k2 p)
    (s1 s2 : RdState) (hd : dataOf s1.g = dataOf s2.g)
    (dirs : List Str) (name suffix : Option Str) (delim : Option Str) (comment : Str) (join python : Bool) (confDirs : List Str)
    (hg : ∀ p node, fs.lstat p = some node → gate s1.g node = gate s2.g node) :
    (readHistory { fs := fs, cb := cb1 } s1 dirs name suffix delim comment join python confDirs).2 =
      (readHistory { fs := fs, cb := cb2 } s2 dirs name suffix delim comment join python confDirs).2 ∧
    dataOf (readHistory { fs := fs, cb := cb1 } s1 dirs name suffix delim comment join python confDirs).1.g =
      dataOf (readHistory { fs := fs, cb := cb2 } s2 dirs name suffix delim comment join python confDirs).1.g := by
  cases delim with
  | none => exact ⟨rfl, hd⟩
  | some dl =>
    cases name with
    | none => exact ⟨rfl, hd⟩
    | some nm =>
      rw [readHistory_eq, readHistory_eq]
      refine ⟨?_, (congrArg Prod.snd (readLayers_settings ..)).trans (hd.trans (congrArg Prod.snd (readLayers_settings ..)).symm)⟩
      rw [readLayers_result, readLayers_result, readFirst_sim fs cb1 cb2 join python dl comment ha _ s1 s2 hg,
        readSeq_sim fs cb1 cb2 join python dl comment ha _ _ _
          (gate_agree_of_settings (readFirst_settings ..) (readFirst_settings ..) hg)]

theorem readConfigCore_result (ctx : RdCtx) (s : RdState) (kf : KeyFile) (name suffix delim : Option Str) (comment : Str) :
    (readConfigCore ctx s kf name suffix delim comment).2 =
      match (readHistory ctx s kf.parseDirs name suffix delim comment kf.join kf.python
          (if kf.confDirs.isEmpty then s.g.confDirs else kf.confDirs)).2 with
      | .error (e, _) => .error e
      | .ok files =>
        match mergeHistory files with
        | none => .error .error
        | some m => .ok m := by
  unfold readConfigCore
  simp only
  obtain ⟨t, r⟩ := readHistory ctx s kf.parseDirs name suffix delim comment kf.join kf.python _
  cases r with
  | error eb => rfl
  | ok files =>
    simp only
    cases mergeHistory files <;> rfl

theorem readDirs_result (ctx : RdCtx) (s : RdState) (usr etc name suffix delim : Option Str) (comment : Str) :
    (readDirs ctx s usr etc name suffix delim comment).2 =
      match (readConfigCore ctx s { parseDirs := [usr.getD [], etc.getD []] } name suffix delim comment).2 with
      | .ok m => (.success, some m)
      | .error e => (e, some { parseDirs := [usr.getD [], etc.getD []] }) := by
  unfold readDirs
  simp only
  obtain ⟨t, r⟩ := readConfigCore ctx s _ name suffix delim comment
  cases r <;> rfl

theorem readConfig_result (ctx : RdCtx) (s : RdState) (slot : Option KeyFile) (project usrSubdir name suffix delim : Option Str)
    (comment : Str) :
    (readConfig ctx s slot project usrSubdir name suffix delim comment).2 =
      match (readConfigCore ctx s (prepareConfig (slot.getD {}) project usrSubdir name).1
          (prepareConfig (slot.getD {}) project usrSubdir name).2 suffix delim comment).2 with
      | .ok m => (.success, some m)
      | .error e => (e, if slot.isNone then none else some (prepareConfig (slot.getD {}) project usrSubdir name).1) := by
  unfold readConfig
  simp only
  obtain ⟨t, r⟩ := readConfigCore ctx s _ _ suffix delim comment
  cases r <;> rfl
theorem readOpened_ne_success {ctx : RdCtx} {s : RdState} {join python : Bool} {a delim comment : Str} {e : Err}
    (h : (readOpened ctx s join python a delim comment).2 = .error e) : e ≠ .success := by
  rcases (readOpened_spec ctx s join python a delim comment).2.2 with h1 | ⟨e', h1, hp⟩ | ⟨kf, h1, _⟩
  · rw [h1] at h; cases h; decide
  · rw [h1] at h; cases h
    rcases hp with h | h | h | h <;> (rw [h]; decide)
  · rw [h1] at h; cases h

theorem readFileCB_ne_success (ctx : RdCtx) (s : RdState) (join python : Bool) (p d c : Str) (e : Err)
    (h : (readFileCB ctx s join python p d c).2 = .error e) : e ≠ .success := by
  revert h
  fun_cases readFileCB ctx s join python p d c
  · intro h; cases h; decide
  · rename_i hg
    intro h
    cases h
    rcases gate_codes _ _ _ hg with h | h | h | h | h <;> (rw [h]; decide)
  · intro h; cases h; decide
  · intro h; cases h; decide
  · exact readOpened_ne_success

theorem readSeq_ne_success {ctx : RdCtx} {join python : Bool} {d c : Str} {s : RdState} {ps : List Str} {e : Err}
    (h : (readSeq ctx join python d c s ps).2 = .error e) : e ≠ .success := by
  fun_induction readSeq ctx join python d c s ps
  · cases h
  · rename_i hr
    cases h
    exact readFileCB_ne_success _ _ _ _ _ _ _ _ (congrArg Prod.snd hr)
  · rename_i hr ih
    cases h
    exact ih (congrArg Prod.snd hr)
  · cases h

theorem readFirst_ne_success {ctx : RdCtx} {join python : Bool} {d c : Str} {s : RdState} {ps : List Str} {e : Err}
    (h : (readFirst ctx join python d c s ps).2 = .error e) : e ≠ .success := by
  fun_induction readFirst ctx join python d c s ps
  · cases h
  · cases h
  · rename_i ih
    exact ih h
  · rename_i hr
    cases h
    exact readFileCB_ne_success _ _ _ _ _ _ _ _ (congrArg Prod.snd hr)

theorem readHistory_ne_success {ctx : RdCtx} {s : RdState} {dirs : List Str} {name suffix delim : Option Str}
    {comment : Str} {join python : Bool} {confDirs : List Str} {e : Err} {b : Bool}
    (h : (readHistory ctx s dirs name suffix delim comment join python confDirs).2 = .error (e, b)) : e ≠ .success := by
  cases delim with
  | none => cases h; decide
  | some d =>
    cases name with
    | none => cases h; decide
    | some nm =>
      rw [readHistory_eq] at h
      revert h
      fun_cases readLayers ctx join python d comment s _ _
      · rename_i hm
        intro h
        cases h
        exact readFirst_ne_success (congrArg Prod.snd hm)
      · rename_i hd
        intro h
        cases h
        exact readSeq_ne_success (congrArg Prod.snd hd)
      · intro h; cases h; decide
      · intro h; cases h

theorem readConfigCore_ne_success (ctx : RdCtx) (s : RdState) (kf : KeyFile) (name suffix delim : Option Str) (comment : Str) (e : Err)
    (h : (readConfigCore ctx s kf name suffix delim comment).2 = .error e) : e ≠ .success := by
  rw [readConfigCore_result] at h
  split at h
  · rename_i hh
    cases h
    exact readHistory_ne_success hh
  · split at h
    · cases h; decide
    · cases h

/-- byte-wise "less or equal" -/
def strLe (a b : Str) : Prop := strLt b a = false

/-- `strLt` is the lexicographic order of byte lists -/
theorem strLt_iff (a b : Str) : strLt a b = true ↔ a < b := by
  induction a generalizing b with
  | nil => cases b <;> simp [strLt]
  | cons x xs ih =>
    cases b with
    | nil => simp [strLt]
    | cons y ys =>
      rw [strLt, List.cons_lt_cons_iff, ← ih]
      by_cases hxy : x < y
      · simp [hxy]
      · by_cases hyx : y < x
        · have : x ≠ y := fun h => by subst h; exact hxy hyx
          simp [hxy, hyx, this]
        · have : x = y := UInt8.le_antisymm (UInt8.not_lt.mp hyx) (UInt8.not_lt.mp hxy)
          simp [this]

theorem strLe_iff (a b : Str) : strLe a b ↔ a ≤ b := by
  rw [strLe, ← Bool.not_eq_true, strLt_iff, List.not_lt]

theorem strLe_of_not_lt (a b : Str) (h : strLt a b = false) : strLe b a := h

theorem strLe_trans (a b c : Str) (h1 : strLe a b) (h2 : strLe b c) : strLe a c := by
  rw [strLe_iff] at *
  exact List.le_trans h1 h2

theorem insertSorted_perm (x : Str) (l : List Str) : (insertSorted x l).Perm (x :: l) := by
  induction l with
  | nil => exact List.Perm.refl _
  | cons y ys ih =>
    simp only [insertSorted]
    split
    · exact List.Perm.refl _
    · exact (List.Perm.cons y ih).trans (List.Perm.swap x y ys)

theorem insertSorted_sorted (x : Str) (l : List Str) (h : l.Pairwise strLe) : (insertSorted x l).Pairwise strLe := by
  induction l with
  | nil => simp [insertSorted]
  | cons y ys ih =>
    rw [List.pairwise_cons] at h
    simp only [insertSorted]
    split
    · rename_i hlt
      rw [List.pairwise_cons]
      refine ⟨?_, List.pairwise_cons.mpr h⟩
      intro z hz
      have hxy : strLe x y := (strLe_iff x y).mpr (List.le_of_lt ((strLt_iff x y).mp hlt))
      rcases List.mem_cons.mp hz with rfl | hz
      · exact hxy
      · exact strLe_trans _ _ _ hxy (h.1 z hz)
    · rename_i hnlt
      have hyx : strLe y x := by
        have : strLt x y = false := by simpa using hnlt
        exact this
      rw [List.pairwise_cons]
      refine ⟨?_, ih h.2⟩
      intro z hz
      have := (insertSorted_perm x ys).mem_iff.mp hz
      rcases List.mem_cons.mp this with rfl | hz'
      · exact hyx
      · exact h.1 z hz'

/-- the directory listing is in byte-wise order -/
theorem sortNames_sorted (l : List Str) : (sortNames l).Pairwise strLe := by
  induction l with
  | nil => simp [sortNames]
  | cons x xs ih => exact insertSorted_sorted x _ ih

/-- and contains exactly the entries -/
theorem sortNames_perm (l : List Str) : (sortNames l).Perm l := by
  induction l with
  | nil => exact List.Perm.refl _
  | cons x xs ih => exact (insertSorted_perm x _).trans (List.Perm.cons x ih)


end Econf
