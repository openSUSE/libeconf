import Lean.Meta.Tactic.Simp.RegisterCommand

/-- the equations of the MiniC expression evaluator (`evalE`, `evalL`, `evalArgs`, places) -/
register_simp_attr mc_eval

/-- the equations of `MiniC.exec`, one per statement form -/
register_simp_attr mc_exec
