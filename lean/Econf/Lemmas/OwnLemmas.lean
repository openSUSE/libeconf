import Econf.Own

/-!
  Lemmas about the ownership model: the ledger composes, and every function of `Econf/Own.lean` takes
  any set of live objects to the set its contract names (`Takes`).
-/

namespace Econf

/-- all ids in use are below the allocation counter -/
def Bnd (L : List Nat) (n : Nat) : Prop := ∀ i ∈ L, i < n

/-- the event sequence is a correct ledger from `L`, and afterwards exactly the ids with `P` are alive -/
def Takes (L : List Nat) (evs : List OEv) (P : Nat → Prop) : Prop :=
  ∃ L', ledger L evs = some L' ∧ ∀ i, i ∈ L' ↔ P i

theorem and_not_or_iff {p q : Prop} (h : q → p) : (p ∧ ¬q) ∨ q ↔ p := by
  by_cases hq : q
  · simp [hq, h hq]
  · simp [hq]

theorem or_and_not_iff {p q : Prop} (h : p → ¬q) : (p ∨ q) ∧ ¬q ↔ p :=
  ⟨fun ⟨hpq, hq⟩ => hpq.resolve_right hq, fun hp => ⟨Or.inl hp, h hp⟩⟩

theorem Bnd.not_mem {L : List Nat} {n : Nat} (hb : Bnd L n) : n ∉ L := fun h => Nat.lt_irrefl _ (hb _ h)

theorem Bnd.without_new {L : List Nat} {n : Nat} (hb : Bnd L n) (i : Nat) : (i ∈ L ∨ i = n) ∧ i ≠ n ↔ i ∈ L :=
  or_and_not_iff fun hi h => hb.not_mem (h ▸ hi)

theorem Bnd.without_ids {L ids : List Nat} {n : Nat} (hb : Bnd L n) (hids : ∀ i ∈ ids, n ≤ i) (i : Nat) :
    (i ∈ L ∨ i ∈ ids) ∧ i ∉ ids ↔ i ∈ L :=
  or_and_not_iff fun hi h => Nat.lt_irrefl _ (Nat.lt_of_lt_of_le (hb i hi) (hids i h))

theorem ledger_append (L : List Nat) (a b : List OEv) :
    ledger L (a ++ b) = (ledger L a).bind (fun L' => ledger L' b) := by
  induction a generalizing L with
  | nil => simp [ledger]
  | cons e es ih =>
    simp only [List.cons_append, ledger]
    cases ledgerStep L e with
    | none => simp
    | some L' => simpa using ih L'

theorem Takes.nil (L : List Nat) : Takes L [] (· ∈ L) := ⟨L, rfl, fun _ => Iff.rfl⟩

theorem Takes.congr {L : List Nat} {evs : List OEv} {P Q : Nat → Prop} (h : Takes L evs P)
    (hpq : ∀ i, P i ↔ Q i) : Takes L evs Q := by
  obtain ⟨L', h1, h2⟩ := h
  exact ⟨L', h1, fun i => (h2 i).trans (hpq i)⟩

theorem Takes.append {L : List Nat} {a b : List OEv} {P Q : Nat → Prop} (ha : Takes L a P)
    (hb : ∀ L', (∀ i, i ∈ L' ↔ P i) → Takes L' b Q) : Takes L (a ++ b) Q := by
  obtain ⟨L', h1, h2⟩ := ha
  obtain ⟨L'', h3, h4⟩ := hb L' h2
  exact ⟨L'', by simp [ledger_append, h1, h3], h4⟩

/-- the event `e` creates the object `id`: `econf_newKeyFile[_with_options]` or `econf_mergeFiles` -/
theorem Takes.create {L : List Nat} {id : Nat} {e : OEv} (he : e = .new id ∨ e = .merged id) (h : id ∉ L) :
    Takes L [e] (fun i => i ∈ L ∨ i = id) := by
  refine ⟨L ++ [id], ?_, fun i => by simp⟩
  rcases he with rfl | rfl <;> simp [ledger, ledgerStep, h]

theorem Takes.free {L : List Nat} {id : Nat} (h : id ∈ L) : Takes L [OEv.free id] (fun i => i ∈ L ∧ i ≠ id) := by
  refine ⟨L.filter (· != id), ?_, fun i => by simp⟩
  simp [ledger, ledgerStep, h]

/-- events that leave the live objects alone (`cb`, `openFile`) -/
theorem Takes.quiet {evs : List OEv} (h : ∀ e ∈ evs, ∀ L, ledgerStep L e = some L) (L : List Nat) :
    Takes L evs (· ∈ L) := by
  induction evs with
  | nil => exact Takes.nil L
  | cons e es ih =>
    obtain ⟨L', h1, h2⟩ := ih fun e he => h e (List.mem_cons_of_mem _ he)
    exact ⟨L', by rw [ledger, h e List.mem_cons_self L]; exact h1, h2⟩

/-- `econf_free(p)`: the events of `OSt.releaseOpt` -/
theorem Takes.freeOpt {L : List Nat} {cur : Option Nat} (h : ∀ c, cur = some c → c ∈ L) :
    Takes L (cur.toList.map OEv.free) (fun i => i ∈ L ∧ some i ≠ cur) := by
  cases cur with
  | none => exact (Takes.nil L).congr (by simp)
  | some c => exact (Takes.free (h c rfl)).congr (by simp)

theorem Takes.freeCons {L : List Nat} {id : Nat} (hid : id ∈ L) {b : List OEv} {Q : Nat → Prop}
    (h : ∀ L', (∀ i, i ∈ L' ↔ i ∈ L ∧ i ≠ id) → Takes L' b Q) : Takes L (OEv.free id :: b) Q :=
  Takes.append (a := [OEv.free id]) (Takes.free hid) h

/-- An object created by the event `e` gets the value `n` of the counter as its id, which nothing alive has; what
    follows runs on a live list that holds `n` and is bounded by the next value of the counter. -/
theorem Takes.alloc {L : List Nat} {n : Nat} {e : OEv} (he : e = .new n ∨ e = .merged n) (hb : Bnd L n)
    {b : List OEv} {Q : Nat → Prop}
    (h : ∀ L', n ∈ L' → Bnd L' (n + 1) → (∀ i, i ∈ L' ↔ i ∈ L ∨ i = n) → Takes L' b Q) : Takes L (e :: b) Q :=
  Takes.append (a := [e]) (Takes.create he hb.not_mem) fun L' hL' =>
    h L' ((hL' n).2 (Or.inr rfl))
      (fun i hi => ((hL' i).1 hi).elim (fun hi => Nat.lt_succ_of_lt (hb i hi)) (fun hi => hi ▸ Nat.lt_succ_self n)) hL'

theorem Takes.freeAll : ∀ (ids : List Nat) (L : List Nat), ids.Nodup → (∀ i ∈ ids, i ∈ L) →
    Takes L (ids.map OEv.free) (fun i => i ∈ L ∧ i ∉ ids)
  | [], L, _, _ => (Takes.nil L).congr (by simp)
  | a :: as, L, hn, hs => by
    have hn' := List.nodup_cons.1 hn
    refine Takes.append (a := [OEv.free a]) (Takes.free (hs a (by simp))) (fun L' hL' => ?_)
    refine (Takes.freeAll as L' hn'.2 (fun i hi => (hL' i).2 ⟨hs i (by simp [hi]), fun h => hn'.1 (h ▸ hi)⟩)).congr ?_
    intro i
    simp only [hL', List.mem_cons, not_or, and_assoc, ne_eq]

theorem alloc_spec (o : OSt) : o.alloc.1.log = o.log ++ [OEv.new o.next] ∧ o.alloc.1.next = o.next + 1 ∧ o.alloc.2 = o.next ∧ o.alloc.1.rs = o.rs := by
  simp [OSt.alloc]

theorem releaseOpt_log (o : OSt) (c : Option Nat) :
    (o.releaseOpt c).log = o.log ++ (c.toList.map OEv.free) ∧ (o.releaseOpt c).next = o.next := by
  cases c <;> simp [OSt.releaseOpt, OSt.release, OSt.emit]

theorem releaseOpt_rs (o : OSt) (c : Option Nat) : (o.releaseOpt c).rs = o.rs := by
  cases c <;> rfl

/-- `if (!freed) econf_free(p)` is `econf_free` on the pointer the callee has cleared when it released the object -/
theorem release_unless (o : OSt) (id : Nat) (freed : Bool) :
    (if freed then o else o.release id) = o.releaseOpt (if freed then none else some id) := by
  cases freed <;> rfl

theorem releaseAll_log (ids : List Nat) : ∀ (o : OSt), (o.releaseAll ids).log = o.log ++ ids.map OEv.free ∧
    (o.releaseAll ids).next = o.next ∧ (o.releaseAll ids).rs = o.rs := by
  induction ids with
  | nil => intro o; simp [OSt.releaseAll]
  | cons a as ih =>
    intro o
    have := ih (o.release a)
    simp only [OSt.releaseAll, List.foldl_cons] at this ⊢
    rw [this.1, this.2.1, this.2.2]
    simp [OSt.release, OSt.emit]

/-- `ownReadFileCB` is `readFileCB` plus a log: callback and `fopen` events, and at the end the release of the
    object if and only if the failure came after the path was resolved -/
theorem ownReadFileCB_exit (ctx : RdCtx) (o : OSt) (obj : Nat) (join python : Bool) (path delim comment : Str) :
    ∃ (evs : List OEv) (freed : Bool),
      ownReadFileCB ctx o obj join python path delim comment =
        ({ rs := (readFileCB ctx o.rs join python path delim comment).1, next := o.next,
           log := o.log ++ (evs ++ if freed then [OEv.free obj] else []) },
         (readFileCB ctx o.rs join python path delim comment).2, freed) ∧
      (∀ e ∈ evs, ∀ L, ledgerStep L e = some L) ∧
      (∀ kf, (readFileCB ctx o.rs join python path delim comment).2 = .ok kf → freed = false) := by
  have hcb : ∀ e ∈ (if ctx.cb.isSome then [OEv.cb path] else []), ∀ L, ledgerStep L e = some L := by
    intro e he L
    split at he
    · cases List.mem_singleton.1 he; rfl
    · cases he
  have hlog : (if ctx.cb.isSome then o.log ++ [OEv.cb path] else o.log) =
      o.log ++ if ctx.cb.isSome then [OEv.cb path] else [] := by
    split <;> simp
  unfold ownReadFileCB readFileCB
  simp only [hlog]
  cases ctx.fs.lstat path with
  | none => exact ⟨[], false, by simp, (fun _ h => absurd h List.not_mem_nil), fun _ _ => rfl⟩
  | some node =>
    simp only
    cases gate o.rs.g node with
    | some e => exact ⟨[], false, by simp, (fun _ h => absurd h List.not_mem_nil), fun _ _ => rfl⟩
    | none =>
      generalize askCallback ctx.cb o.rs path = a
      obtain ⟨rs, acc⟩ := a
      cases acc with
      | false => exact ⟨if ctx.cb.isSome then [OEv.cb path] else [], false, by simp, hcb, fun _ _ => rfl⟩
      | true =>
        simp only [Bool.not_true, Bool.false_eq_true, if_false]
        cases absPath ctx.fs path with
        | none => exact ⟨if ctx.cb.isSome then [OEv.cb path] else [], false, by simp, hcb, fun _ _ => rfl⟩
        | some abs =>
          simp only
          generalize readOpened ctx _ join python abs delim comment = q
          obtain ⟨rs2, r⟩ := q
          have hop : ∀ e ∈ (if ctx.cb.isSome then [OEv.cb path] else []) ++ [OEv.openFile abs], ∀ L, ledgerStep L e = some L :=
            fun e he L => (List.mem_append.1 he).elim (fun he => hcb e he L) fun he => by cases List.mem_singleton.1 he; rfl
          cases r with
          | ok kf => exact ⟨_, false, by simp, hop, fun _ _ => rfl⟩
          | error e => exact ⟨_, true, by simp [OSt.release, OSt.emit], hop, fun _ h => nomatch h⟩

theorem ownReadFileCB_result (ctx : RdCtx) (o : OSt) (obj : Nat) (join python : Bool) (path delim comment : Str) :
    ((ownReadFileCB ctx o obj join python path delim comment).1.rs, (ownReadFileCB ctx o obj join python path delim comment).2.1) =
      readFileCB ctx o.rs join python path delim comment := by
  obtain ⟨evs, freed, h, -, -⟩ := ownReadFileCB_exit ctx o obj join python path delim comment
  rw [h]

theorem ownReadFileCB_spec (ctx : RdCtx) (o : OSt) (obj : Nat) (join python : Bool) (path delim comment : Str) :
    ∃ evs, (ownReadFileCB ctx o obj join python path delim comment).1.log = o.log ++ evs ∧
      (ownReadFileCB ctx o obj join python path delim comment).1.next = o.next ∧
      (∀ L, obj ∈ L → Takes L evs (fun i => i ∈ L ∧ ((ownReadFileCB ctx o obj join python path delim comment).2.2 = true → i ≠ obj))) ∧
      (∀ kf, (ownReadFileCB ctx o obj join python path delim comment).2.1 = .ok kf →
        (ownReadFileCB ctx o obj join python path delim comment).2.2 = false) := by
  obtain ⟨evs, freed, h, hquiet, hok⟩ := ownReadFileCB_exit ctx o obj join python path delim comment
  rw [h]
  refine ⟨_, rfl, rfl, fun L hobj => Takes.append (Takes.quiet hquiet L) fun L' hL' => ?_, hok⟩
  cases freed with
  | true => exact (Takes.free ((hL' obj).2 hobj)).congr fun i => by simp [hL']
  | false => exact (Takes.nil L').congr fun i => by simp [hL']

/-- `read_file_with_callback` on the object `id` has failed; its caller's pointer is NULL if the callee has released
    the object and holds it otherwise.  Once that pointer is released or re-used, `id` is no longer alive either way. -/
theorem dropKept {L L' : List Nat} {id : Nat} {freed : Bool} (hid : id ∈ L)
    (hL' : ∀ i, i ∈ L' ↔ i ∈ L ∧ (freed = true → i ≠ id)) :
    (∀ c, (if freed then none else some id) = some c → c ∈ L') ∧
    ∀ i, (i ∈ L' ∧ some i ≠ (if freed then none else some id)) ↔ (i ∈ L ∧ some i ≠ some id) := by
  cases freed
  · simpa [hL'] using hid
  · simp [hL']

theorem Takes.readFailed {L : List Nat} {evs : List OEv} {id : Nat} {freed : Bool} (hid : id ∈ L)
    (h : Takes L evs (fun i => i ∈ L ∧ (freed = true → i ≠ id))) :
    Takes L (evs ++ (if freed then none else some id).toList.map OEv.free) (fun i => i ∈ L ∧ i ≠ id) :=
  Takes.append h fun _ hL' =>
    (Takes.freeOpt (dropKept hid hL').1).congr fun i => ((dropKept hid hL').2 i).trans (by simp)

section
variable {ctx : RdCtx} {join python : Bool} {delim comment : Str} {o o2 : OSt} {id : Nat} {p : Str} {freed : Bool}

theorem ownReadFirst_nil {cur : Option Nat} :
    ownReadFirst ctx join python delim comment o cur [] = (o, .ok none, cur) := rfl

theorem ownReadFirst_none_cons {ps : List Str} :
    ownReadFirst ctx join python delim comment o none (p :: ps) =
      ownReadFirst ctx join python delim comment o.alloc.1 (some o.alloc.2) (p :: ps) := by
  rw [ownReadFirst, ownReadFirst]

theorem ownReadFirst_cons_ok {kf : KeyFile} (ps : List Str)
    (h : ownReadFileCB ctx o id join python p delim comment = (o2, .ok kf, freed)) :
    ownReadFirst ctx join python delim comment o (some id) (p :: ps) = (o2, .ok (some (id, kf)), some id) := by
  simp only [ownReadFirst, h]

theorem ownReadFirst_cons_nofile (ps : List Str)
    (h : ownReadFileCB ctx o id join python p delim comment = (o2, .error .nofile, freed)) :
    ownReadFirst ctx join python delim comment o (some id) (p :: ps) =
      ownReadFirst ctx join python delim comment o2 (if freed then none else some id) ps := by
  simp only [ownReadFirst, h, if_true]

theorem ownReadFirst_cons_error {e : Err} (ps : List Str)
    (h : ownReadFileCB ctx o id join python p delim comment = (o2, .error e, freed)) (he : e ≠ .nofile) :
    ownReadFirst ctx join python delim comment o (some id) (p :: ps) =
      (o2.releaseOpt (if freed then none else some id), .error e, none) := by
  simp only [ownReadFirst, h, if_neg he]
end

/-- the object the caller of `ownReadFirst` is left with: that of the file found, else the one kept for the next
    candidate; after an error none -/
def heldAfter : Except Err (Option (Nat × KeyFile)) × Option Nat → Option Nat
  | (.ok (some (id, _)), _) => some id
  | (.ok none, cur) => cur
  | (.error _, _) => none

/-- The contract of `ownReadFirst`, the same on every exit: the caller's object `cur` is used up, the object held
    afterwards is `cur` again or a new one, and it is the only addition to what is alive. -/
def FirstPost (o : OSt) (cur : Option Nat) (q : OSt × Except Err (Option (Nat × KeyFile)) × Option Nat) : Prop :=
  ∃ evs, q.1.log = o.log ++ evs ∧ o.next ≤ q.1.next ∧
    (∀ id kf, q.2.1 = .ok (some (id, kf)) → q.2.2 = some id) ∧
    (∀ c, heldAfter q.2 = some c → some c = cur ∨ (o.next ≤ c ∧ c < q.1.next)) ∧
    ∀ L : List Nat, (∀ c, cur = some c → c ∈ L) → Bnd L o.next →
      Takes L evs (fun i => (i ∈ L ∧ some i ≠ cur) ∨ some i = heldAfter q.2)

theorem FirstPost.of_alloc {o : OSt} {q : OSt × Except Err (Option (Nat × KeyFile)) × Option Nat}
    (h : FirstPost o.alloc.1 (some o.alloc.2) q) : FirstPost o none q := by
  obtain ⟨evs, hlog, hnext, hcur, hheld, htakes⟩ := h
  refine ⟨OEv.new o.next :: evs, by rw [hlog]; simp [OSt.alloc], Nat.le_of_succ_le hnext, hcur, fun c hc => Or.inr ?_,
    fun L _ hb => Takes.alloc (.inl rfl) hb fun L' hn hb' hL' => (htakes L' (fun c hc => by cases hc; exact hn) hb').congr fun i => ?_⟩
  · rcases hheld c hc with h | h
    · cases h
      exact ⟨Nat.le_refl _, hnext⟩
    · exact ⟨Nat.le_of_succ_le h.1, h.2⟩
  · refine or_congr_left ?_
    simp only [hL' i, OSt.alloc, ne_eq, Option.some.injEq, reduceCtorEq, not_false_eq_true, and_true]
    exact or_and_not_iff fun hi h => hb.not_mem (h ▸ hi)

theorem ownReadFirst_post_cons (ctx : RdCtx) (join python : Bool) (delim comment : Str) (p : Str) (ps : List Str)
    (ih : ∀ o cur, FirstPost o cur (ownReadFirst ctx join python delim comment o cur ps)) (o : OSt) (id : Nat) :
    FirstPost o (some id) (ownReadFirst ctx join python delim comment o (some id) (p :: ps)) := by
  obtain ⟨evs2, h2log, h2next, h2takes, h2ok⟩ := ownReadFileCB_spec ctx o id join python p delim comment
  generalize hq : ownReadFileCB ctx o id join python p delim comment = q at h2log h2next h2takes h2ok
  obtain ⟨o2, r, freed⟩ := q
  simp only at h2log h2next h2takes h2ok
  cases r with
  | ok kf =>
    rw [ownReadFirst_cons_ok ps hq]
    cases h2ok kf rfl
    refine ⟨evs2, h2log, Nat.le_of_eq h2next.symm, fun _ _ h => by cases h; rfl, fun c hc => Or.inl hc.symm, fun L hc _ => ?_⟩
    exact (h2takes L (hc id rfl)).congr fun i =>
      (and_iff_left fun h => nomatch h).trans (and_not_or_iff fun h => Option.some.inj h ▸ hc id rfl).symm
  | error e =>
    by_cases he : e = .nofile
    · subst he
      rw [ownReadFirst_cons_nofile ps hq]
      obtain ⟨evs3, h3log, h3next, h3cur, h3held, h3takes⟩ := ih o2 (if freed then none else some id)
      refine ⟨evs2 ++ evs3, by rw [h3log, h2log, List.append_assoc], by omega, h3cur, fun c hc => ?_, fun L hc hb => ?_⟩
      · rcases h3held c hc with h | h
        · cases freed
          · exact Or.inl h
          · cases h
        · exact Or.inr (by omega)
      · refine Takes.append (h2takes L (hc id rfl)) fun L' hL' => ?_
        obtain ⟨hcur', hdrop⟩ := dropKept (hc id rfl) hL'
        exact (h3takes L' hcur' fun i hi => h2next ▸ hb i ((hL' i).1 hi).1).congr fun i => or_congr_left (hdrop i)
    · rw [ownReadFirst_cons_error ps hq he]
      obtain ⟨hlog, hnext⟩ := releaseOpt_log o2 (if freed then none else some id)
      refine ⟨evs2 ++ _, by rw [hlog, h2log, List.append_assoc], by simp only [hnext]; omega,
        (fun _ _ h => nomatch h), (fun _ h => nomatch h), fun L hc _ => ?_⟩
      exact ((h2takes L (hc id rfl)).readFailed (hc id rfl)).congr fun i =>
        (and_congr_right' (not_congr Option.some_inj).symm).trans (or_iff_left (Option.some_ne_none i)).symm

theorem ownReadFirst_post (ctx : RdCtx) (join python : Bool) (delim comment : Str) (ps : List Str) :
    ∀ (o : OSt) (cur : Option Nat), FirstPost o cur (ownReadFirst ctx join python delim comment o cur ps) := by
  induction ps with
  | nil =>
    intro o cur
    refine ⟨[], (List.append_nil _).symm, Nat.le_refl _, (fun _ _ h => nomatch h), fun c hc => Or.inl hc.symm,
      fun L hc _ => ?_⟩
    exact (Takes.nil L).congr fun i => (and_not_or_iff fun h => hc i h.symm).symm
  | cons p ps ih =>
    intro o cur
    cases cur with
    | some id => exact ownReadFirst_post_cons ctx join python delim comment p ps ih o id
    | none => exact (ownReadFirst_post_cons ctx join python delim comment p ps ih _ _).of_alloc

theorem ownReadFirst_spec (ctx : RdCtx) (join python : Bool) (delim comment : Str) (ps : List Str) :
    ∀ (o : OSt) (cur : Option Nat),
    ∃ evs, (ownReadFirst ctx join python delim comment o cur ps).1.log = o.log ++ evs ∧
      o.next ≤ (ownReadFirst ctx join python delim comment o cur ps).1.next ∧
      ∀ L : List Nat, (∀ c, cur = some c → c ∈ L) → Bnd L o.next →
      match ownReadFirst ctx join python delim comment o cur ps with
      | (o3, .ok (some (id', _)), cur3) => cur3 = some id' ∧ id' < o3.next ∧ (some id' = cur ∨ o.next ≤ id') ∧ Takes L evs (fun i => (i ∈ L ∧ some i ≠ cur) ∨ i = id')
      | (o3, .ok none, cur3) => (∀ c, cur3 = some c → c < o3.next ∧ (some c = cur ∨ o.next ≤ c)) ∧ Takes L evs (fun i => (i ∈ L ∧ some i ≠ cur) ∨ some i = cur3)
      | (_, .error _, _) => Takes L evs (fun i => i ∈ L ∧ some i ≠ cur) := by
  intro o cur
  obtain ⟨evs, hlog, hnext, hcur, hheld, htakes⟩ := ownReadFirst_post ctx join python delim comment ps o cur
  refine ⟨evs, hlog, hnext, fun L hc hb => ?_⟩
  have ht := htakes L hc hb
  generalize ownReadFirst ctx join python delim comment o cur ps = q at hnext hcur hheld ht
  obtain ⟨o3, r, cur3⟩ := q
  have hlt : ∀ c, heldAfter (r, cur3) = some c → c < o3.next ∧ (some c = cur ∨ o.next ≤ c) := fun c h =>
    (hheld c h).elim (fun h => ⟨Nat.lt_of_lt_of_le (hb c (hc c h.symm)) hnext, Or.inl h⟩) fun h => ⟨h.2, Or.inr h.1⟩
  match r with
  | .error _ => exact ht.congr fun i => or_iff_left (Option.some_ne_none i)
  | .ok none => exact ⟨hlt, ht⟩
  | .ok (some (id', kf)) =>
    exact ⟨hcur id' kf rfl, (hlt id' rfl).1, (hlt id' rfl).2, ht.congr fun i => or_congr_right Option.some_inj⟩

def idsOf (fs : List (Nat × KeyFile)) : List Nat := fs.map (·.1)

theorem idsOf_cons (k : Nat × KeyFile) (fs : List (Nat × KeyFile)) : idsOf (k :: fs) = k.1 :: idsOf fs := rfl

theorem idsOf_append (a b : List (Nat × KeyFile)) : idsOf (a ++ b) = idsOf a ++ idsOf b := List.map_append

/-- Between `o` and `o'` the events `evs` were logged and the objects `ids` created: new ids in ascending order,
    alive afterwards next to what was alive before.  The contract of `ownReadSeq`, and it composes. -/
def Adds (o o' : OSt) (evs : List OEv) (ids : List Nat) : Prop :=
  o'.log = o.log ++ evs ∧ o.next ≤ o'.next ∧ ids.Pairwise (· < ·) ∧ (∀ i ∈ ids, o.next ≤ i ∧ i < o'.next) ∧
    ∀ L : List Nat, Bnd L o.next → Takes L evs (fun i => i ∈ L ∨ i ∈ ids)

theorem Adds.trans {o o1 o2 : OSt} {a b : List OEv} {ids1 ids2 : List Nat}
    (h1 : Adds o o1 a ids1) (h2 : Adds o1 o2 b ids2) : Adds o o2 (a ++ b) (ids1 ++ ids2) := by
  obtain ⟨l1, n1, p1, r1, t1⟩ := h1
  obtain ⟨l2, n2, p2, r2, t2⟩ := h2
  refine ⟨by rw [l2, l1, List.append_assoc], Nat.le_trans n1 n2,
    List.pairwise_append.2 ⟨p1, p2, fun a ha b hb => Nat.lt_of_lt_of_le (r1 a ha).2 (r2 b hb).1⟩,
    fun i hi => ?_, fun L hb => ?_⟩
  · rcases List.mem_append.1 hi with h | h
    · exact ⟨(r1 i h).1, Nat.lt_of_lt_of_le (r1 i h).2 n2⟩
    · exact ⟨Nat.le_trans n1 (r2 i h).1, (r2 i h).2⟩
  · refine Takes.append (t1 L hb) fun L' hL' => (t2 L' fun i hi => ?_).congr fun i => by
      rw [hL' i, List.mem_append, or_assoc]
    exact ((hL' i).1 hi).elim (fun h => Nat.lt_of_lt_of_le (hb i h) n1) fun h => (r1 i h).2

section
variable {ctx : RdCtx} {join python : Bool} {delim comment : Str} {o o2 : OSt} {p : Str} {freed : Bool}

theorem ownReadSeq_nil : ownReadSeq ctx join python delim comment o [] = (o, .ok (), []) := rfl

theorem ownReadSeq_cons_error {e : Err} (ps : List Str)
    (h : ownReadFileCB ctx o.alloc.1 o.alloc.2 join python p delim comment = (o2, .error e, freed)) :
    ownReadSeq ctx join python delim comment o (p :: ps) =
      (o2.releaseOpt (if freed then none else some o.next), .error e, []) := by
  simp only [ownReadSeq, h, release_unless]
  rfl

theorem ownReadSeq_cons_ok {kf : KeyFile} {ps : List Str} {o3 : OSt} {r3 : Except Err Unit} {rest : List (Nat × KeyFile)}
    (h : ownReadFileCB ctx o.alloc.1 o.alloc.2 join python p delim comment = (o2, .ok kf, freed))
    (h3 : ownReadSeq ctx join python delim comment o2 ps = (o3, r3, rest)) :
    ownReadSeq ctx join python delim comment o (p :: ps) = (o3, r3, (o.next, kf) :: rest) := by
  simp only [ownReadSeq, h, h3]
  rfl
end

theorem ownReadSeq_spec (ctx : RdCtx) (join python : Bool) (delim comment : Str) (ps : List Str) :
    ∀ (o : OSt),
    ∃ evs, (ownReadSeq ctx join python delim comment o ps).1.log = o.log ++ evs ∧
      o.next ≤ (ownReadSeq ctx join python delim comment o ps).1.next ∧
      (idsOf (ownReadSeq ctx join python delim comment o ps).2.2).Pairwise (· < ·) ∧
      (∀ i ∈ idsOf (ownReadSeq ctx join python delim comment o ps).2.2, o.next ≤ i ∧ i < (ownReadSeq ctx join python delim comment o ps).1.next) ∧
      ∀ L : List Nat, Bnd L o.next →
        Takes L evs (fun i => i ∈ L ∨ i ∈ idsOf (ownReadSeq ctx join python delim comment o ps).2.2) := by
  induction ps with
  | nil =>
    intro o
    exact ⟨[], (List.append_nil _).symm, Nat.le_refl _, List.Pairwise.nil, fun _ h => absurd h List.not_mem_nil,
      fun L _ => (Takes.nil L).congr fun i => (or_iff_left List.not_mem_nil).symm⟩
  | cons p ps ih =>
    intro o
    obtain ⟨evs2, h2log, h2next, h2takes, h2ok⟩ := ownReadFileCB_spec ctx o.alloc.1 o.alloc.2 join python p delim comment
    generalize hq : ownReadFileCB ctx o.alloc.1 o.alloc.2 join python p delim comment = q at h2log h2next h2takes h2ok
    obtain ⟨o2, r, freed⟩ := q
    replace h2log : o2.log = o.log ++ OEv.new o.next :: evs2 := by rw [h2log]; simp [OSt.alloc]
    replace h2next : o2.next = o.next + 1 := h2next
    cases r with
    | error e =>
      rw [ownReadSeq_cons_error ps hq]
      obtain ⟨hlog, hnext⟩ := releaseOpt_log o2 (if freed then none else some o.next)
      refine ⟨OEv.new o.next :: (evs2 ++ (if freed then none else some o.next).toList.map OEv.free),
        by rw [hlog, h2log]; simp, by simp only [hnext]; omega, List.Pairwise.nil, fun _ h => absurd h List.not_mem_nil,
        fun L hb => Takes.alloc (.inl rfl) hb fun L' hn _ hL' => ((h2takes L' hn).readFailed hn).congr fun i => ?_⟩
      rw [hL' i]
      exact (hb.without_new i).trans (or_iff_left List.not_mem_nil).symm
    | ok kf =>
      cases h2ok kf rfl
      -- this file adds its object, the rest adds theirs
      have h1 : Adds o o2 (OEv.new o.next :: evs2) [o.next] :=
        ⟨h2log, by omega, List.pairwise_singleton _ _, fun i hi => by cases List.mem_singleton.1 hi; omega,
          fun L hb => Takes.alloc (.inl rfl) hb fun L' hn _ hL' => (h2takes L' hn).congr fun i => by
            rw [hL' i, List.mem_singleton]; exact and_iff_left fun h => nomatch h⟩
      obtain ⟨evs3, h3⟩ := ih o2
      generalize hq3 : ownReadSeq ctx join python delim comment o2 ps = q3 at h3
      rw [ownReadSeq_cons_ok hq hq3]
      exact ⟨_, h1.trans h3⟩

/-- what `readConfigHistoryWithCallback` guarantees: on success the files handed out are alive next to what was
    alive before, they are distinct and new; on failure nothing has changed -/
def HistPost (o : OSt) (L : List Nat) (evs : List OEv) : OSt × Except (Err × Bool) (List (Nat × KeyFile)) → Prop
  | (o', .ok files) => Takes L evs (fun i => i ∈ L ∨ i ∈ idsOf files) ∧ (idsOf files).Pairwise (· < ·) ∧
      (∀ i ∈ idsOf files, o.next ≤ i ∧ i < o'.next)
  | (_, .error _) => Takes L evs (· ∈ L)

theorem ownHistoryRest_spec (ctx : RdCtx) (o o1 : OSt) (main : Option (Nat × KeyFile)) (cur : Option Nat)
    (paths : List Str) (delim comment : Str) (join python : Bool) (evs1 : List OEv)
    (hlog : o1.log = o.log ++ evs1) (hnext : o.next ≤ o1.next)
    (hheld : ∀ c, heldAfter (.ok main, cur) = some c → o.next ≤ c ∧ c < o1.next)
    (htakes : ∀ L : List Nat, Bnd L o.next → Takes L evs1 (fun i => i ∈ L ∨ some i = heldAfter (.ok main, cur))) :
    ∃ evs, (ownHistoryRest ctx o1 main cur paths delim comment join python).1.log = o.log ++ evs ∧
      o.next ≤ (ownHistoryRest ctx o1 main cur paths delim comment join python).1.next ∧
      ∀ L : List Nat, Bnd L o.next → HistPost o L evs (ownHistoryRest ctx o1 main cur paths delim comment join python) := by
  -- with no main file the object kept for the candidates is released; then the main file, if any, is all there is
  have h0 : ∃ evs0, Adds o (if main.isSome then o1 else o1.releaseOpt cur) evs0 (idsOf main.toList) := by
    cases main with
    | some m =>
      refine ⟨evs1, hlog, hnext, List.pairwise_singleton _ _, fun i hi => ?_, fun L hb => (htakes L hb).congr fun i => ?_⟩
      · cases List.mem_singleton.1 hi
        exact hheld _ rfl
      · exact or_congr_right (Option.some_inj.trans List.mem_singleton.symm)
    | none =>
      obtain ⟨hl, hn⟩ := releaseOpt_log o1 cur
      refine ⟨evs1 ++ cur.toList.map OEv.free, by rw [← List.append_assoc, ← hlog]; exact hl, hn ▸ hnext, List.Pairwise.nil,
        fun _ h => absurd h List.not_mem_nil, fun L hb => Takes.append (htakes L hb) fun L' hL' => ?_⟩
      refine (Takes.freeOpt fun c hc => (hL' c).2 (Or.inr hc.symm)).congr fun i => ?_
      rw [hL' i]
      refine (or_and_not_iff fun hi h => ?_).trans (or_iff_left List.not_mem_nil).symm
      exact Nat.lt_irrefl _ (Nat.lt_of_lt_of_le (hb i hi) (hheld i h.symm).1)
  unfold ownHistoryRest
  simp only
  obtain ⟨evs0, h0⟩ := h0
  generalize (if main.isSome then o1 else o1.releaseOpt cur) = o2 at h0
  obtain ⟨evs3, h3⟩ := ownReadSeq_spec ctx join python delim comment paths o2
  generalize ownReadSeq ctx join python delim comment o2 paths = q3 at h3
  obtain ⟨o3, r3, drops⟩ := q3
  obtain ⟨hlog3, hnext3, hpw, hrng, hall⟩ : Adds o o3 (evs0 ++ evs3) (idsOf (main.toList ++ drops)) :=
    idsOf_append .. ▸ h0.trans h3
  cases r3 with
  | error e =>
    obtain ⟨hl, hn, _⟩ := releaseAll_log (idsOf (main.toList ++ drops)) o3
    refine ⟨(evs0 ++ evs3) ++ (idsOf (main.toList ++ drops)).map OEv.free, by rw [← List.append_assoc, ← hlog3]; exact hl,
      Nat.le_trans hnext3 (Nat.le_of_eq hn.symm), fun L hb => Takes.append (hall L hb) fun L' hL' => ?_⟩
    refine (Takes.freeAll _ L' (hpw.imp Nat.ne_of_lt) fun i hi => (hL' i).2 (Or.inr hi)).congr fun i => ?_
    rw [hL' i]
    exact hb.without_ids (fun i hi => (hrng i hi).1) i
  | ok u =>
    by_cases he : (main.toList ++ drops).isEmpty = true
    · simp only [he, if_true]
      refine ⟨evs0 ++ evs3, hlog3, hnext3, fun L hb => (hall L hb).congr fun i => ?_⟩
      rw [List.isEmpty_iff.1 he]
      exact or_iff_left List.not_mem_nil
    · simp only [he, Bool.false_eq_true, if_false]
      exact ⟨evs0 ++ evs3, hlog3, hnext3, fun L hb => ⟨hall L hb, hpw, hrng⟩⟩

theorem ownHistory_spec (ctx : RdCtx) (o : OSt) (dirs : List Str) (name suffix delim : Option Str)
    (comment : Str) (join python : Bool) (confDirs : List Str) :
    ∃ evs, (ownHistory ctx o dirs name suffix delim comment join python confDirs).1.log = o.log ++ evs ∧
      o.next ≤ (ownHistory ctx o dirs name suffix delim comment join python confDirs).1.next ∧
      ∀ L : List Nat, Bnd L o.next → HistPost o L evs (ownHistory ctx o dirs name suffix delim comment join python confDirs) := by
  unfold ownHistory
  cases delim with
  | none => exact ⟨[], (List.append_nil _).symm, Nat.le_refl _, fun L _ => Takes.nil L⟩
  | some d =>
    cases name with
    | none => exact ⟨[], (List.append_nil _).symm, Nat.le_refl _, fun L _ => Takes.nil L⟩
    | some nm =>
      simp only
      by_cases hnm : nm.isEmpty = true
      · rw [if_pos hnm]
        exact ownHistoryRest_spec ctx o o none none _ d comment join python [] (List.append_nil _).symm (Nat.le_refl _)
          (fun _ h => nomatch h) fun L _ => (Takes.nil L).congr fun i => (or_iff_left (Option.some_ne_none i)).symm
      · rw [if_neg hnm]
        obtain ⟨evs1, h1, h2, _, hheld, htakes⟩ :=
          ownReadFirst_post ctx join python d comment (mainCandidates dirs nm (dotSuffix (some nm) suffix)) o none
        generalize ownReadFirst ctx join python d comment o none (mainCandidates dirs nm (dotSuffix (some nm) suffix)) = q
          at h1 h2 hheld htakes ⊢
        obtain ⟨o3, r3, cur3⟩ := q
        cases r3 with
        | error e =>
          exact ⟨evs1, h1, h2, fun L hb => (htakes L (fun _ h => nomatch h) hb).congr fun i =>
            (or_iff_left (Option.some_ne_none i)).trans (and_iff_left (Option.some_ne_none i))⟩
        | ok m =>
          exact ownHistoryRest_spec ctx o o3 m cur3 _ d comment join python evs1 h1 h2
            (fun c hc => (hheld c hc).resolve_left fun h => nomatch h)
            fun L hb => (htakes L (fun _ h => nomatch h) hb).congr fun i =>
              or_congr_left (and_iff_left (Option.some_ne_none i))

section
variable {o : OSt} {acc k : Nat × KeyFile} {ks : List (Nat × KeyFile)}

theorem ownMergeRest_nil : ownMergeRest o acc [] = (o, acc) := rfl

theorem ownMergeRest_masked (h : masked k.2 (ks.map (·.2)) = true) :
    ownMergeRest o acc (k :: ks) = ownMergeRest (o.release k.1) acc ks := by
  simp only [ownMergeRest, h, if_true]

theorem ownMergeRest_merged (h : masked k.2 (ks.map (·.2)) = false) :
    ownMergeRest o acc (k :: ks) =
      ownMergeRest ((o.allocMerged.1.release acc.1).release k.1) (o.next, mergeFiles acc.2 k.2) ks := by
  simp only [ownMergeRest, h, Bool.false_eq_true, if_false]
  rfl
end

theorem ownMergeRest_spec : ∀ (ks : List (Nat × KeyFile)) (o : OSt) (acc : Nat × KeyFile),
    ∃ evs, (ownMergeRest o acc ks).1.log = o.log ++ evs ∧ o.next ≤ (ownMergeRest o acc ks).1.next ∧
      ((ownMergeRest o acc ks).2.1 = acc.1 ∨ (o.next ≤ (ownMergeRest o acc ks).2.1 ∧ (ownMergeRest o acc ks).2.1 < (ownMergeRest o acc ks).1.next)) ∧
      ∀ L : List Nat, Bnd L o.next → acc.1 ∈ L → (∀ i ∈ idsOf ks, i ∈ L) → (acc.1 :: idsOf ks).Nodup →
        Takes L evs (fun i => (i ∈ L ∧ i ≠ acc.1 ∧ i ∉ idsOf ks) ∨ i = (ownMergeRest o acc ks).2.1) := by
  intro ks
  induction ks with
  | nil =>
    intro o acc
    refine ⟨[], (List.append_nil _).symm, Nat.le_refl _, Or.inl rfl, fun L _ ha _ _ => (Takes.nil L).congr fun i => ?_⟩
    refine Iff.trans ?_ (or_congr_left (and_congr_right fun _ => (and_iff_left List.not_mem_nil).symm))
    exact (and_not_or_iff fun h => h ▸ ha).symm
  | cons k ks ih =>
    intro o acc
    simp only [idsOf_cons, List.mem_cons, List.nodup_cons, not_or, forall_eq_or_imp]
    cases hm : masked k.2 (ks.map (·.2)) with
    | true =>
      -- masked: the file is released, nothing is merged
      rw [ownMergeRest_masked hm]
      obtain ⟨evs, h1, h2, h3, h4⟩ := ih (o.release k.1) acc
      refine ⟨OEv.free k.1 :: evs, by rw [h1]; simp [OSt.release, OSt.emit], h2, h3, fun L hb ha hk hn => ?_⟩
      refine Takes.freeCons hk.1 fun L' hL' => ?_
      refine (h4 L' (fun i hi => hb i ((hL' i).1 hi).1) ((hL' _).2 ⟨ha, hn.1.1⟩)
        (fun i hi => (hL' i).2 ⟨hk.2 i hi, fun h => hn.2.1 (h ▸ hi)⟩) (List.nodup_cons.2 ⟨hn.1.2, hn.2.2⟩)).congr fun i => ?_
      simp only [hL' i, and_assoc, and_left_comm]
    | false =>
      -- merged: a new object, the old accumulator and the file are released
      rw [ownMergeRest_merged hm]
      obtain ⟨evs, h1, h2, h3, h4⟩ := ih ((o.allocMerged.1.release acc.1).release k.1) (o.next, mergeFiles acc.2 k.2)
      replace h2 : o.next + 1 ≤ _ := h2
      refine ⟨OEv.merged o.next :: OEv.free acc.1 :: OEv.free k.1 :: evs,
        by rw [h1]; simp [OSt.allocMerged, OSt.release, OSt.emit], Nat.le_of_succ_le h2, Or.inr ?_, fun L hb ha hk hn => ?_⟩
      · rcases h3 with h | h
        · rw [h]; exact ⟨Nat.le_refl _, h2⟩
        · exact ⟨Nat.le_of_succ_le h.1, h.2⟩
      refine Takes.alloc (.inr rfl) hb fun L1 hn1 hb1 hL1 => ?_
      refine Takes.freeCons ((hL1 _).2 (Or.inl ha)) fun L2 hL2 => ?_
      refine Takes.freeCons ((hL2 _).2 ⟨(hL1 _).2 (Or.inl hk.1), Ne.symm hn.1.1⟩) fun L3 hL3 => ?_
      have hnew : ∀ i ∈ L, i ≠ o.next := fun i hi h => hb.not_mem (h ▸ hi)
      have hL : ∀ i, i ∈ L3 ↔ (i ∈ L ∨ i = o.next) ∧ i ≠ acc.1 ∧ i ≠ k.1 := fun i => by rw [hL3, hL2, hL1, and_assoc]
      refine (h4 L3 (fun i hi => hb1 i ((hL2 i).1 ((hL3 i).1 hi).1).1)
        ((hL _).2 ⟨Or.inr rfl, Ne.symm (hnew _ ha), Ne.symm (hnew _ hk.1)⟩)
        (fun i hi => (hL i).2 ⟨Or.inl (hk.2 i hi), fun h => hn.1.2 (h ▸ hi), fun h => hn.2.1 (h ▸ hi)⟩)
        (List.nodup_cons.2 ⟨fun h => hnew _ (hk.2 _ h) rfl, hn.2.2⟩)).congr fun i => or_congr_left ?_
      rw [hL i]
      exact ⟨fun ⟨⟨hi, h1, h2⟩, h3, h4⟩ => ⟨hi.resolve_right h3, h1, h2, h4⟩,
        fun ⟨hi, h1, h2, h4⟩ => ⟨⟨Or.inl hi, h1, h2⟩, hnew i hi, h4⟩⟩

/-- what `readConfigWithCallback` guarantees about the caller's object `res` -/
def CorePost (o : OSt) (res : Nat) (L : List Nat) (evs : List OEv) : OSt × Except Err (Nat × KeyFile) → Prop
  | (o', .ok m) => Takes L evs (fun i => (i ∈ L ∧ i ≠ res) ∨ i = m.1) ∧ m.1 < o'.next ∧ o.next ≤ m.1
  | (_, .error _) => Takes L evs (· ∈ L)

theorem ownReadConfigCore_spec (ctx : RdCtx) (o : OSt) (res : Nat) (kf : KeyFile) (name suffix delim : Option Str) (comment : Str) :
    ∃ evs, (ownReadConfigCore ctx o res kf name suffix delim comment).1.log = o.log ++ evs ∧
      o.next ≤ (ownReadConfigCore ctx o res kf name suffix delim comment).1.next ∧
      ∀ L : List Nat, Bnd L o.next → res ∈ L → CorePost o res L evs (ownReadConfigCore ctx o res kf name suffix delim comment) := by
  unfold ownReadConfigCore
  simp only
  obtain ⟨evs1, h1, h2, h3⟩ := ownHistory_spec ctx o kf.parseDirs name suffix delim comment kf.join kf.python
    (if kf.confDirs.isEmpty then o.rs.g.confDirs else kf.confDirs)
  generalize ownHistory ctx o kf.parseDirs name suffix delim comment kf.join kf.python
    (if kf.confDirs.isEmpty then o.rs.g.confDirs else kf.confDirs) = q at h1 h2 h3 ⊢
  obtain ⟨o1, r⟩ := q
  match r with
  | .error (e1, e2) => exact ⟨evs1, h1, h2, fun L hb _ => h3 L hb⟩
  | .ok [] => exact ⟨evs1, h1, h2, fun L hb _ => (h3 L hb).1.congr fun i => or_iff_left List.not_mem_nil⟩
  | .ok (f :: fs) =>
    obtain ⟨-, hpw, hrng⟩ := h3 [] (fun _ h => nomatch h)
    have hf := hrng f.1 List.mem_cons_self
    obtain ⟨evs2, g1, g2, g3, g4⟩ := ownMergeRest_spec fs (o1.release res) f
    simp only
    generalize ownMergeRest (o1.release res) f fs = q2 at g1 g2 g3 g4 ⊢
    obtain ⟨o3, m⟩ := q2
    replace g1 : o3.log = o1.log ++ OEv.free res :: evs2 := by rw [g1]; simp [OSt.release, OSt.emit]
    replace g2 : o1.next ≤ o3.next := g2
    replace g3 : m.1 = f.1 ∨ o1.next ≤ m.1 ∧ m.1 < o3.next := g3
    simp only at h2 hf ⊢
    refine ⟨evs1 ++ OEv.free res :: evs2, by rw [g1, h1, List.append_assoc], by omega,
      fun L hb hres => ⟨?_, by omega, by omega⟩⟩
    have hres' := hb res hres
    refine Takes.append (h3 L hb).1 fun L1 hL1 => Takes.freeCons ((hL1 res).2 (Or.inl hres)) fun L2 hL2 => ?_
    have hnew : ∀ i ∈ idsOf (f :: fs), i ∈ L2 := fun i hi =>
      (hL2 i).2 ⟨(hL1 i).2 (Or.inr hi), fun h => by have := hrng i hi; omega⟩
    refine (g4 L2 (fun i hi => ?_) (hnew _ List.mem_cons_self) (fun i hi => hnew i (List.mem_cons_of_mem _ hi))
      (hpw.imp Nat.ne_of_lt)).congr fun i => or_congr_left ?_
    · rcases (hL1 i).1 ((hL2 i).1 hi).1 with h | h
      · exact Nat.lt_of_lt_of_le (hb i h) h2
      · exact (hrng i h).2
    · have : (i ≠ f.1 ∧ i ∉ idsOf fs) ↔ i ∉ idsOf (f :: fs) := by rw [idsOf_cons, List.mem_cons, not_or]
      rw [this, hL2 i, hL1 i, and_right_comm, hb.without_ids (fun i hi => (hrng i hi).1) i]

/-- `readConfigWithCallback` on an object created for the call: afterwards the caller holds the merged object,
    a newer one, or on failure still the object it came with -/
theorem ownReadConfigCore_new (ctx : RdCtx) (o : OSt) (kf : KeyFile) (name suffix delim : Option Str) (comment : Str) :
    ∃ evs, (ownReadConfigCore ctx o.alloc.1 o.alloc.2 kf name suffix delim comment).1.log = o.log ++ evs ∧
      (∀ m, (ownReadConfigCore ctx o.alloc.1 o.alloc.2 kf name suffix delim comment).2 = .ok m → o.next < m.1) ∧
      ∀ L : List Nat, Bnd L o.next → Takes L evs (fun i => i ∈ L ∨
        i = match (ownReadConfigCore ctx o.alloc.1 o.alloc.2 kf name suffix delim comment).2 with
            | .ok m => m.1
            | .error _ => o.next) := by
  obtain ⟨evs, h1, -, h3⟩ := ownReadConfigCore_spec ctx o.alloc.1 o.alloc.2 kf name suffix delim comment
  generalize ownReadConfigCore ctx o.alloc.1 o.alloc.2 kf name suffix delim comment = q at h1 h3
  obtain ⟨o1, r⟩ := q
  refine ⟨OEv.new o.next :: evs, by rw [h1]; simp [OSt.alloc], fun m hm => ?_, fun L hb => Takes.alloc (.inl rfl) hb fun L' hn hb' hL' => ?_⟩
  · cases hm
    exact (h3 [o.next] (fun i hi => List.mem_singleton.1 hi ▸ Nat.lt_succ_self _) List.mem_cons_self).2.2
  · have h := h3 L' hb' hn
    cases r with
    | ok m => exact h.1.congr fun i => or_congr_left ((and_congr_left' (hL' i)).trans (hb.without_new i))
    | error e => exact h.congr hL'

/-! ### the ownership model computes what the functional model computes -/

def stripIds (r : Except Err (Option (Nat × KeyFile))) : Except Err (Option KeyFile) := r.map (Option.map Prod.snd)

theorem ownReadFirst_result (ctx : RdCtx) (join python : Bool) (delim comment : Str) (ps : List Str) :
    ∀ (o : OSt) (cur : Option Nat),
    ((ownReadFirst ctx join python delim comment o cur ps).1.rs, stripIds (ownReadFirst ctx join python delim comment o cur ps).2.1) =
      readFirst ctx join python delim comment o.rs ps := by
  induction ps with
  | nil => intro o cur; rfl
  | cons p ps ih =>
    have hsome : ∀ (o : OSt) (id : Nat),
        ((ownReadFirst ctx join python delim comment o (some id) (p :: ps)).1.rs,
          stripIds (ownReadFirst ctx join python delim comment o (some id) (p :: ps)).2.1) =
        readFirst ctx join python delim comment o.rs (p :: ps) := by
      intro o id
      have hcb := ownReadFileCB_result ctx o id join python p delim comment
      generalize hq : ownReadFileCB ctx o id join python p delim comment = q at hcb
      obtain ⟨o2, r, freed⟩ := q
      simp only [readFirst, ← hcb]
      cases r with
      | ok kf => rw [ownReadFirst_cons_ok ps hq]; rfl
      | error e =>
        by_cases he : e = .nofile
        · subst he
          rw [ownReadFirst_cons_nofile ps hq]
          exact ih o2 _
        · rw [ownReadFirst_cons_error ps hq he, releaseOpt_rs]
          show (o2.rs, Except.error e) = _
          split
          · contradiction
          · next h => exact absurd (Except.error.inj h) he
          · next h => rw [Except.error.inj h]
    intro o cur
    cases cur with
    | some id => exact hsome o id
    | none =>
      rw [ownReadFirst_none_cons]
      exact hsome o.alloc.1 o.alloc.2

theorem ownReadSeq_result (ctx : RdCtx) (join python : Bool) (delim comment : Str) (ps : List Str) :
    ∀ (o : OSt),
    ((ownReadSeq ctx join python delim comment o ps).1.rs,
      (match (ownReadSeq ctx join python delim comment o ps).2.1 with
       | .ok () => Except.ok ((ownReadSeq ctx join python delim comment o ps).2.2.map Prod.snd)
       | .error e => .error e)) =
      readSeq ctx join python delim comment o.rs ps := by
  induction ps with
  | nil => intro o; rfl
  | cons p ps ih =>
    intro o
    have hcb : _ = readFileCB ctx o.rs join python p delim comment :=
      ownReadFileCB_result ctx o.alloc.1 o.alloc.2 join python p delim comment
    generalize hq : ownReadFileCB ctx o.alloc.1 o.alloc.2 join python p delim comment = q at hcb
    obtain ⟨o2, r, freed⟩ := q
    simp only [readSeq, ← hcb]
    cases r with
    | error e => rw [ownReadSeq_cons_error ps hq, releaseOpt_rs]
    | ok kf =>
      have h3 := ih o2
      generalize hq3 : ownReadSeq ctx join python delim comment o2 ps = q3 at h3
      obtain ⟨o3, r3, rest⟩ := q3
      rw [ownReadSeq_cons_ok hq hq3]
      simp only [← h3]
      cases r3 <;> rfl

theorem ownHistoryRest_rs (ctx : RdCtx) (o : OSt) (main : Option (Nat × KeyFile)) (cur : Option Nat)
    (paths : List Str) (delim comment : Str) (join python : Bool) :
    ((ownHistoryRest ctx o main cur paths delim comment join python).1.rs,
      (ownHistoryRest ctx o main cur paths delim comment join python).2.map (List.map Prod.snd)) =
    (match readSeq ctx join python delim comment o.rs paths with
     | (s, .error e) => (s, Except.error (e, true))
     | (s, .ok drops) =>
       if ((main.map Prod.snd).toList ++ drops).isEmpty then (s, Except.error (Err.nofile, true))
       else (s, .ok ((main.map Prod.snd).toList ++ drops))) := by
  unfold ownHistoryRest
  simp only
  have hrs : (if main.isSome then o else o.releaseOpt cur).rs = o.rs := by
    split
    · rfl
    · exact releaseOpt_rs o cur
  rw [← hrs, ← ownReadSeq_result]
  generalize ownReadSeq ctx join python delim comment (if main.isSome then o else o.releaseOpt cur) paths = q
  obtain ⟨o3, r3, drops⟩ := q
  cases r3 with
  | error e => simp [Except.map, (releaseAll_log _ o3).2.2]
  | ok u =>
    cases main with
    | none =>
      by_cases hd : drops = [] <;> simp [hd, Except.map]
    | some m => simp [Except.map]

theorem ownHistory_result (ctx : RdCtx) (o : OSt) (dirs : List Str) (name suffix delim : Option Str)
    (comment : Str) (join python : Bool) (confDirs : List Str) :
    ((ownHistory ctx o dirs name suffix delim comment join python confDirs).1.rs,
      (ownHistory ctx o dirs name suffix delim comment join python confDirs).2.map (List.map Prod.snd)) =
    readHistory ctx o.rs dirs name suffix delim comment join python confDirs := by
  unfold ownHistory readHistory
  cases delim with
  | none => simp [Except.map]
  | some d =>
    cases name with
    | none => simp [Except.map]
    | some nm =>
      by_cases he : nm.isEmpty = true
      · simp only [he, if_true]
        rw [ownHistoryRest_rs]
        generalize readSeq ctx join python d comment o.rs _ = q
        obtain ⟨s, r⟩ := q
        cases r <;> simp
      · simp only [he, Bool.false_eq_true, if_false]
        rw [← ownReadFirst_result ctx join python d comment _ o none]
        generalize ownReadFirst ctx join python d comment o none _ = q
        obtain ⟨o3, r3, cur3⟩ := q
        cases r3 with
        | error e => simp [stripIds, Except.map]
        | ok m =>
          have hr := ownHistoryRest_rs ctx o3 m cur3 (dropinPaths ctx.fs dirs nm (dotSuffix (some nm) suffix)
              (if confDirs.isEmpty = true then [dotSuffix (some nm) suffix ++ [46, 100]] else confDirs)) d comment join python
          simp only [stripIds, Except.map] at hr ⊢
          rw [hr]
          generalize readSeq ctx join python d comment o3.rs _ = q
          obtain ⟨s, r⟩ := q
          cases r <;> cases m <;> simp

theorem ownMergeRest_result : ∀ (ks : List (Nat × KeyFile)) (o : OSt) (acc : Nat × KeyFile),
    (ownMergeRest o acc ks).1.rs = o.rs ∧ (ownMergeRest o acc ks).2.2 = mergeRest acc.2 (ks.map Prod.snd) := by
  intro ks
  induction ks with
  | nil => intro o acc; simp [ownMergeRest, mergeRest]
  | cons k ks ih =>
    intro o acc
    simp only [ownMergeRest, mergeRest, List.map_cons]
    split
    · have := ih (o.release k.1) acc
      simpa [OSt.release, OSt.emit] using this
    · have := ih ((o.allocMerged.1.release acc.1).release k.1) (o.allocMerged.2, mergeFiles acc.2 k.2)
      simpa [OSt.release, OSt.emit, OSt.allocMerged] using this

theorem ownReadConfigCore_result (ctx : RdCtx) (o : OSt) (res : Nat) (kf : KeyFile) (name suffix delim : Option Str) (comment : Str) :
    ((ownReadConfigCore ctx o res kf name suffix delim comment).1.rs,
      (ownReadConfigCore ctx o res kf name suffix delim comment).2.map Prod.snd) =
    readConfigCore ctx o.rs kf name suffix delim comment := by
  unfold ownReadConfigCore readConfigCore
  simp only
  rw [← ownHistory_result]
  generalize ownHistory ctx o kf.parseDirs name suffix delim comment kf.join kf.python _ = q
  obtain ⟨o1, r⟩ := q
  cases r with
  | error e => obtain ⟨e1, e2⟩ := e; simp [Except.map]
  | ok files =>
    cases files with
    | nil => simp [Except.map, mergeHistory]
    | cons f fs =>
      have := ownMergeRest_result fs (o1.release res) f
      simp only [Except.map, List.map_cons, mergeHistory]
      rw [← this.2, this.1]
      simp [OSt.release, OSt.emit]

theorem ownReadConfig_result (ctx : RdCtx) (o : OSt) (slot : Option (Nat × KeyFile))
    (project usr name suffix delim : Option Str) (comment : Str) :
    ((ownReadConfig ctx o slot project usr name suffix delim comment).1.rs,
      (ownReadConfig ctx o slot project usr name suffix delim comment).2.1,
      (ownReadConfig ctx o slot project usr name suffix delim comment).2.2.map Prod.snd) =
    readConfig ctx o.rs (slot.map Prod.snd) project usr name suffix delim comment := by
  unfold ownReadConfig readConfig
  cases slot with
  | none =>
    simp only [Option.map_none, Option.isNone_none, Option.getD_none]
    rw [← show _ = readConfigCore ctx o.rs _ _ suffix delim comment from
      ownReadConfigCore_result ctx o.alloc.1 o.alloc.2 (prepareConfig {} project usr name).1 (prepareConfig {} project usr name).2 suffix delim comment]
    generalize ownReadConfigCore ctx o.alloc.1 o.alloc.2 _ _ suffix delim comment = q
    obtain ⟨o1, r⟩ := q
    cases r <;> simp [Except.map, OSt.release, OSt.emit]
  | some s =>
    obtain ⟨id, kf⟩ := s
    simp only [Option.map_some, Option.isNone_some, Option.getD_some]
    rw [← ownReadConfigCore_result ctx o id]
    generalize ownReadConfigCore ctx o id _ _ suffix delim comment = q
    obtain ⟨o1, r⟩ := q
    cases r <;> simp [Except.map]

theorem ownReadDirs_result (ctx : RdCtx) (o : OSt) (usr etc name suffix delim : Option Str) (comment : Str) :
    ((ownReadDirs ctx o usr etc name suffix delim comment).1.rs,
      (ownReadDirs ctx o usr etc name suffix delim comment).2.1,
      (ownReadDirs ctx o usr etc name suffix delim comment).2.2.map Prod.snd) =
    readDirs ctx o.rs usr etc name suffix delim comment := by
  unfold ownReadDirs readDirs
  simp only
  rw [← show _ = readConfigCore ctx o.rs _ name suffix delim comment from
    ownReadConfigCore_result ctx o.alloc.1 o.alloc.2 { parseDirs := [usr.getD [], etc.getD []] } name suffix delim comment]
  generalize ownReadConfigCore ctx o.alloc.1 o.alloc.2 _ name suffix delim comment = q
  obtain ⟨o1, r⟩ := q
  cases r <;> simp [Except.map]

theorem ownReadFile_result (ctx : RdCtx) (o : OSt) (path delim comment : Option Str) :
    ((ownReadFile ctx o path delim comment).1.rs, (ownReadFile ctx o path delim comment).2.1,
      (ownReadFile ctx o path delim comment).2.2.map Prod.snd) = readFile ctx o.rs path delim comment := by
  unfold ownReadFile readFile
  match path, delim, comment with
  | none, _, _ => rfl
  | some _, none, _ => rfl
  | some _, some _, none => rfl
  | some p, some d, some c =>
    simp only
    rw [← show _ = readFileCB ctx o.rs false false p d c from ownReadFileCB_result ctx o.alloc.1 o.alloc.2 false false p d c]
    generalize ownReadFileCB ctx o.alloc.1 o.alloc.2 false false p d c = q
    obtain ⟨o1, r, freed⟩ := q
    cases r <;> cases freed <;> rfl

end Econf
