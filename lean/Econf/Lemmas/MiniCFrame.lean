import Econf.Lemmas.MiniCLemmas

/-!
  Facts about the MiniC interpreter that the proofs about the translated functions share and that are about no function in
  particular: expressions and statements over a variable frame, searching and counting
  loops, blocks of bytes, blocks of words (struct members, arrays of pointers), C strings in memory, and a few facts on lists.
-/
open MiniC

namespace MiniC

/-! ### expressions over a variable frame -/

/-- `(ty) n` for a literal in range -/
theorem evalE_cast_lit (ty : Ty) (n : Int) (st : St) (hp : ty ≠ .ptr) (h : wrapTo ty n = n) : evalE (.cast ty (.lit n .i32)) st = .ok (.int n, st) := by
  cases ty <;> simp_all [mc_eval, convert]

theorem evalE_u64_zero (st : St) : evalE (.cast .u64 (.lit 0 .i32)) st = .ok (.int ((0 : Nat) : Int), st) :=
  evalE_cast_lit .u64 0 st (by decide) (wrapTo_u64_small 0 (by decide) (by decide))

theorem _root_.LeafKf.stepOf_some (e : Expr) (st st' : St) (v : Val) (h : evalE e st = .ok (v, st')) : stepOf (some e) st = .ok st' := by
  simp only [mc_eval, stepOf, h]

/-- `l++`, `l--`, `++l`, `--l` on an integer object, every part evaluated -/
theorem evalE_incdec_of {l : LVal} {inc post : Bool} {ty : Ty} {st st1 st2 : St} {p : Place} {old r r' : Val}
    (hl : evalL l st = .ok (p, st1)) (ho : readPlace st1 ty p = .ok old)
    (hb : binop st1.mem (if inc then .add else .sub) ty old (.int 1) = .ok r)
    (hty : (ty == .ptr) = false) (hc : convert ty r = .ok r') (hw : writePlace st1 ty p r' = .ok st2) :
    evalE (.incdec l inc post ty) st = .ok (if post then old else r', st2) := by
  simp only [evalE_incdec, bind, Except.bind, hl, ho, hb, hty, Bool.false_eq_true, if_false, hc, hw]

/-- `v++` on a `size_t` variable; the value of the expression is the old one -/
theorem incdec_u64_eval (v : Nat) (mm : Mem) (loc : List Val) (j : Nat) (hl : loc[v]? = some (.int (j : Int))) (hj : (j : Int) + 1 < 18446744073709551616) :
    evalE (.incdec (.var v) true true .u64) { mem := mm, loc := loc } = .ok (.int (j : Int), { mem := mm, loc := loc.set v (.int ((j + 1 : Nat) : Int)) }) := by
  have hw : wrapTo .u64 ((j : Int) + 1) = (j : Int) + 1 := wrapTo_u64_small _ (by omega) hj
  have hv : v < loc.length := (List.getElem?_eq_some_iff.1 hl).1
  exact evalE_incdec_of (st1 := ⟨mm, loc⟩) (r := .int ((j : Int) + 1)) rfl (by simp [readPlace, hl]) (by simp [binop, cmpInt, arith_u64, hw])
    rfl (convert_u64_small _ (by omega) hj) (by simp [writePlace, hv])

/-- … as the step of a `for` loop, the frame written as the loop invariants have it -/
theorem incdec_u64_var (v : Nat) (mm : Mem) (loc : List Val) (j : Nat) (hv : v < loc.length) (hj : (j : Int) + 1 < 18446744073709551616) :
    stepOf (some (.incdec (.var v) true true .u64)) { mem := mm, loc := loc.set v (.int (j : Int)) } =
      .ok { mem := mm, loc := loc.set v (.int ((j + 1 : Nat) : Int)) } := by
  simpa using LeafKf.stepOf_some _ _ _ _ (incdec_u64_eval v mm (loc.set v (.int (j : Int))) j (List.getElem?_set_self hv) hj)

/-- `i++` on the `int` variable 3 -/
theorem _root_.LeafKf.incdec_i32_var3 (m : Mem) (a b c : Val) (n : Int) (h1 : -2147483648 ≤ n + 1) (h2 : n + 1 < 2147483648) :
    evalE (.incdec (.var 3) true true .i32) { mem := m, loc := [a, b, c, .int n] } = .ok (.int n, { mem := m, loc := [a, b, c, .int (n + 1)] }) :=
  evalE_incdec_of (st1 := ⟨m, [a, b, c, .int n]⟩) (r := .int (n + 1)) rfl rfl (by simp [binop, cmpInt, arith_i32 (n + 1) h1 h2])
    rfl (by simp [convert, wrapTo_i32 _ h1 h2]) rfl

/-- `++p`, `p++`, `--p`, `p--` on a pointer variable, given that the new pointer may be formed -/
theorem evalE_incdec_ptr {st : St} {k b : Nat} {o o' : Int} (inc post : Bool)
    (hv : st.loc[k]? = some (.ptr b o)) (ha : ptrAdd st.mem b o (if inc then 1 else -1) = .ok (.ptr b o')) :
    evalE (.incdec (.var k) inc post .ptr) st =
      .ok (if post then .ptr b o else .ptr b o', { st with loc := st.loc.set k (.ptr b o') }) := by
  obtain ⟨hk, hv'⟩ := List.getElem?_eq_some_iff.1 hv
  cases inc
  · have ha' : ptrAdd st.mem b o (-1) = .ok (.ptr b o') := ha
    simp [mc_eval, hv', binop, hk, ha']
  · have ha' : ptrAdd st.mem b o 1 = .ok (.ptr b o') := ha
    simp [mc_eval, hv', binop, hk, ha']

/-- `a + b` / `a - b` in `int`, operands without side effects -/
theorem evalE_addsub_i32 (st : St) (a b : Expr) (x y : Int) (sub : Bool)
    (ha : evalE a st = .ok (.int x, st)) (hb : evalE b st = .ok (.int y, st))
    (h1 : -2147483648 ≤ (if sub then x - y else x + y)) (h2 : (if sub then x - y else x + y) < 2147483648) :
    evalE (.bin (if sub then .sub else .add) a b .i32) st = .ok (.int (if sub then x - y else x + y), st) := by
  have har := arith_i32 _ h1 h2
  have hbin : binop st.mem (if sub then .sub else .add) .i32 (.int x) (.int y) = .ok (.int (if sub then x - y else x + y)) := by
    cases sub <;> simp_all [binop, cmpInt]
  simp only [mc_eval, ha, hb, hbin]

theorem evalE_land_bool {a b : Expr} {st : St} {x y : Bool} (ha : evalE a st = .ok (boolVal x, st))
    (hb : evalE b st = .ok (boolVal y, st)) : evalE (.land a b) st = .ok (boolVal (x && y), st) := by
  cases x <;> cases y <;> simp [mc_eval, ha, hb, boolVal, truth]

theorem evalE_cond_bool {c a b : Expr} {st st' : St} {x : Bool} (hc : evalE c st = .ok (boolVal x, st')) :
    evalE (.cond c a b) st = if x then evalE a st' else evalE b st' := by
  cases x <;> simp [mc_eval, hc, boolVal, truth]

/-! ### conditions -/

theorem testOf_boolVal {c : Expr} {st st' : St} {r : Bool} (h : evalE c st = .ok (boolVal r, st')) :
    testOf (some c) st = .ok (r, st') := by
  cases r <;> simp [testOf, mc_eval, h, boolVal, truth]

theorem testOf_lnot {c : Expr} {st st' : St} {r : Bool} (h : evalE c st = .ok (boolVal r, st')) :
    testOf (some (.un .lnot c .i32)) st = .ok (!r, st') := by
  cases r <;> simp [testOf, mc_eval, h, unop, boolVal, truth]

/-- an expression of type `char` as a condition -/
theorem testOf_char {e : Expr} {st st' : St} {c : UInt8} (he : evalE e st = .ok (.int (sch c), st')) :
    testOf (some e) st = .ok (c != 0, st') := by
  have hz : (sch c != 0) = (c != 0) := by
    by_cases hc : c = 0
    · subst hc; decide
    · rw [bne_iff_ne.2 (mt (sch_zero_iff c).1 hc), bne_iff_ne.2 hc]
  simp [testOf, mc_eval, he, truth, hz]

/-- `(int) flag` for a `bool` variable holding 0 or 1 -/
theorem test_flag (v : Nat) (mm : Mem) (loc : List Val) (n : Int) (hl : loc[v]? = some (.int n)) (hn : n = 0 ∨ n = 1) :
    testOf (some (.cast .i32 (.load (.var v) .bool))) { mem := mm, loc := loc } = .ok (decide (n = 1), { mem := mm, loc := loc }) := by
  have hw0 : wrapTo .i32 0 = 0 := by decide
  have hw1 : wrapTo .i32 1 = 1 := by decide
  rcases hn with rfl | rfl <;> simp [mc_eval, testOf, convert, hw0, hw1, truth, hl]

/-- `!flag` for a `bool` variable holding 0 or 1 -/
theorem test_not_flag (v : Nat) (mm : Mem) (loc : List Val) (n : Int) (hl : loc[v]? = some (.int n)) (hn : n = 0 ∨ n = 1) :
    testOf (some (.un .lnot (.load (.var v) .bool) .i32)) { mem := mm, loc := loc } = .ok (decide (n = 0), { mem := mm, loc := loc }) := by
  rcases hn with rfl | rfl <;> simp [mc_eval, testOf, unop, boolVal, truth, hl]

/-- the three ways the source tests a pointer, for a pointer that is not NULL … -/
theorem testOf_ptr {e : Expr} {st st' : St} {b : Nat} {o : Int} (h : evalE e st = .ok (.ptr b o, st')) :
    testOf (some (.bin .eq e .null .i32)) st = .ok (false, st') ∧ testOf (some (.bin .ne e .null .i32)) st = .ok (true, st') ∧
      testOf (some (.un .lnot e .i32)) st = .ok (false, st') := by
  simp [mc_eval, testOf, h, binop, unop, truth, boolVal]

/-- … and for NULL -/
theorem testOf_null {e : Expr} {st st' : St} (h : evalE e st = .ok (.null, st')) :
    testOf (some (.bin .eq e .null .i32)) st = .ok (true, st') ∧ testOf (some (.un .lnot e .i32)) st = .ok (true, st') := by
  simp [mc_eval, testOf, h, binop, unop, truth, boolVal]

/-! ### statements -/

theorem exec_expr_ok {fuel : Nat} {e : Expr} {st st' : St} {v : Val} (h : evalE e st = .ok (v, st')) :
    exec fuel (.expr e) st = .normal st' := by
  simp [mc_exec, h]

/-- `i = 0` for a `size_t` variable -/
theorem u64_zero (fuel : Nat) (v : Nat) (m : Mem) (loc : List Val) (hv : v < loc.length) :
    exec fuel (.expr (.assign (.var v) (.cast .u64 (.lit 0 .i32)) .u64)) { mem := m, loc := loc } =
      .normal { mem := m, loc := loc.set v (.int ((0 : Nat) : Int)) } :=
  exec_assign_var (st' := { mem := m, loc := loc }) (evalE_u64_zero _) (convert_u64_small _ (Int.natCast_nonneg 0) (by decide)) hv

/-- `return c;` for an error code -/
theorem exec_ret_u32 (fuel : Nat) (c : Int) (h0 : 0 ≤ c) (h1 : c < 4294967296) (st : St) :
    exec fuel (.ret (some (.cast .u32 (.lit c .i32)))) st = .ret (.int c) st := by
  simp [mc_exec, mc_eval, convert, wrapTo_u32_small c h0 h1]

/-- `return a == b;` (as `bool`) for two `size_t` variables -/
theorem ret_u64_eq (fuel : Nat) (m : Mem) (loc : List Val) (va vb x y : Nat) (ha : loc[va]? = some (.int (x : Int)))
    (hb : loc[vb]? = some (.int (y : Int))) :
    exec fuel (.ret (some (.cast .bool (.bin .eq (.load (.var va) .u64) (.load (.var vb) .u64) .i32)))) { mem := m, loc := loc } =
      .ret (.int (if x = y then 1 else 0)) { mem := m, loc := loc } := by
  have b1 : wrapTo .bool 1 = 1 := by decide
  have b0 : wrapTo .bool 0 = 0 := by decide
  by_cases e : x = y
  · simp [mc_exec, mc_eval, ha, hb, binop, cmpInt, boolVal, convert, e, b1]
  · have e' : ¬ (x : Int) = (y : Int) := by omega
    simp [mc_exec, mc_eval, ha, hb, binop, cmpInt, boolVal, convert, e, e', b0]

/-- call of a translated function whose result is stored through an lvalue -/
theorem exec_inl_lval {fuel : Nat} {args : Args} {nl : Nat} {body : Stmt} {st st1 st' st2 st3 : St} {vs : List Val} {v : Val} {dty : Ty}
    {dst : LVal} {p : Place}
    (ha : evalArgs args st = .ok (vs, st1))
    (hb : exec fuel body { mem := st1.mem, loc := vs ++ List.replicate (nl - vs.length) .undef } = .ret v st')
    (hl : evalL dst { mem := st'.mem, loc := st1.loc } = .ok (p, st2))
    (hw : (convert dty v).bind (writePlace st2 dty p) = .ok st3) :
    exec fuel (.inl (some dst) dty args nl body) st = .normal st3 := by
  simp [mc_exec, ha, hb, hl, hw]

theorem exec_inl_val {fuel : Nat} {args : Args} {nl : Nat} {body : Stmt} {st st1 st' : St} {vs : List Val} {v v' : Val} {dty : Ty} {i : Nat}
    (ha : evalArgs args st = .ok (vs, st1))
    (hb : exec fuel body { mem := st1.mem, loc := vs ++ List.replicate (nl - vs.length) .undef } = .ret v st')
    (hc : convert dty v = .ok v') (hi : i < st1.loc.length) :
    exec fuel (.inl (some (.var i)) dty args nl body) st = .normal { mem := st'.mem, loc := st1.loc.set i v' } :=
  exec_inl_lval ha hb rfl (by simp [mc_eval, hc, hi])

/-- `if (v == NULL) s` for a variable that holds a pointer -/
theorem exec_ite_null_skip (fuel v p : Nat) (s : Stmt) (mm : Mem) (loc : List Val) (hl : loc[v]? = some (.ptr p 0)) :
    exec fuel (.ite (.bin .eq (.load (.var v) .ptr) .null .i32) s .skip) { mem := mm, loc := loc } = .normal { mem := mm, loc := loc } :=
  exec_ite_skip (testOf_ptr (evalE_var (ty := .ptr) (st := ⟨mm, loc⟩) hl (by simp))).1

/-- `a; (b; c)` and `(a; b); c` run alike -/
theorem _root_.LeafKf.exec_seq_assoc (fuel : Nat) (a b c : Stmt) (st : St) : exec fuel (.seq a (.seq b c)) st = exec fuel (.seq (.seq a b) c) st := by
  simp only [mc_exec]
  cases exec fuel a st <;> simp

/-! ### loops that search or count -/

theorem _root_.LeafKf.loop_brk (test : St → R (Bool × St)) (body : St → Outcome) (step : St → R St) :
    ∀ (n : Nat) (P : Nat → St) (R : St),
    (∀ i, i < n → test (P i) = .ok (true, P i) ∧ ∃ Q, (body (P i) = .normal Q ∨ body (P i) = .cont Q) ∧ step Q = .ok (P (i + 1))) →
    test (P n) = .ok (true, P n) → body (P n) = .brk R → ∀ fuel, n < fuel → loop test body step fuel (P 0) = .normal R := by
  intro n P R hstep ht hb fuel hf
  refine loop_rounds (· = .normal R) n (fun i st => st = P i) ?_ (fun _ f h => h ▸ loop_brk_now ht hb f) _ fuel rfl hf
  rintro i _ hi rfl
  obtain ⟨ht, Q, hb, hs⟩ := hstep i hi
  exact ⟨_, ⟨_, Q, ht, hb, hs⟩, rfl⟩

/-- A counting `for` loop that searches: rounds `0 … f-1` pass; if `f < n` the loop ends in round `f` with the outcome `O`
    (the body returns or breaks there), otherwise it runs to the end. -/
theorem search_for (fuel : Nat) (test inc : Expr) (body : Stmt) (P : Nat → St) (n f : Nat) (O : Outcome)
    (htest_lt : ∀ i, i < n → testOf (some test) (P i) = .ok (true, P i))
    (htest_ge : testOf (some test) (P n) = .ok (false, P n))
    (hstep : ∀ i, i < n → stepOf (some inc) (P i) = .ok (P (i + 1)))
    (hmiss : ∀ i, i < f → exec fuel body (P i) = .normal (P i)) (hfn : f ≤ n)
    (hhit : f < n → ∀ k, loop (testOf (some test)) (exec fuel body) (stepOf (some inc)) (k + 1) (P f) = O) (hfuel : n < fuel) :
    exec fuel (.for (some test) (some inc) body) (P 0) = if f < n then O else .normal (P n) := by
  rw [exec_for]
  refine loop_rounds (· = if f < n then O else .normal (P n)) f (fun i st => st = P i) ?_ ?_ _ fuel rfl (by omega)
  · rintro i _ hi rfl
    exact ⟨_, ⟨_, _, htest_lt i (by omega), Or.inl (hmiss i hi), hstep i (by omega)⟩, rfl⟩
  · rintro _ k rfl
    show loop _ _ _ _ _ = _
    by_cases hlt : f < n
    · rw [if_pos hlt]; exact hhit hlt k
    · obtain rfl : f = n := by omega
      rw [if_neg hlt]; exact loop_exit htest_ge k

/-- … the body returns in round `f` -/
theorem search_loop (fuel : Nat) (test inc : Expr) (body : Stmt) (P : Nat → St) (n f : Nat) (v : Val) (R : St)
    (htest_lt : ∀ i, i < n → testOf (some test) (P i) = .ok (true, P i))
    (htest_ge : testOf (some test) (P n) = .ok (false, P n))
    (hstep : ∀ i, i < n → stepOf (some inc) (P i) = .ok (P (i + 1)))
    (hmiss : ∀ i, i < f → exec fuel body (P i) = .normal (P i))
    (hfn : f ≤ n) (hhit : f < n → exec fuel body (P f) = .ret v R) (hfuel : n < fuel) :
    exec fuel (.for (some test) (some inc) body) (P 0) = if f < n then .ret v R else .normal (P n) :=
  search_for fuel test inc body P n f _ htest_lt htest_ge hstep hmiss hfn (fun h k => loop_ret_now (htest_lt f h) (hhit h) k) hfuel

/-- … the body breaks in round `f`, leaving `R` -/
theorem search_loop_brk (fuel : Nat) (test inc : Expr) (body : Stmt) (P : Nat → St) (n f : Nat) (R : St)
    (htest : ∀ i, testOf (some test) (P i) = .ok (decide (i < n), P i))
    (hstep : ∀ i, i < n → stepOf (some inc) (P i) = .ok (P (i + 1)))
    (hmiss : ∀ i, i < f → exec fuel body (P i) = .normal (P i))
    (hfn : f ≤ n) (hhit : f < n → exec fuel body (P f) = .brk R) (hfuel : n < fuel) :
    exec fuel (.for (some test) (some inc) body) (P 0) = .normal (if f < n then R else P n) := by
  have htest_lt : ∀ i, i < n → testOf (some test) (P i) = .ok (true, P i) := fun i hi => by rw [htest, decide_eq_true hi]
  rw [search_for fuel test inc body P n f (.normal R) htest_lt (by rw [htest, decide_eq_false (Nat.lt_irrefl _)]) hstep hmiss hfn
    (fun h k => loop_brk_now (htest_lt f h) (hhit h) k) hfuel]
  by_cases h : f < n <;> simp [h]

/-- `for (; test; inc) if (cond) hit` walking over a list `l` with a counter: when `test` is `i < l.length`, `cond` tells whether
    `l[i]` satisfies `p` and `hit` returns, the loop runs up to the first element that satisfies `p` -/
theorem search_list {α} (l : List α) (p : α → Bool) (fuel : Nat) (test inc cond : Expr) (hit : Stmt) (P : Nat → St) (v : Val) (R : St)
    (htest : ∀ i, testOf (some test) (P i) = .ok (decide (i < l.length), P i))
    (hstep : ∀ i, i < l.length → stepOf (some inc) (P i) = .ok (P (i + 1)))
    (hcond : ∀ i (hi : i < l.length), testOf (some cond) (P i) = .ok (p l[i], P i))
    (hhit : l.findIdx p < l.length → exec fuel hit (P (l.findIdx p)) = .ret v R) (hfuel : l.length < fuel) :
    exec fuel (.for (some test) (some inc) (.ite cond hit .skip)) (P 0) =
      if l.findIdx p < l.length then .ret v R else .normal (P l.length) := by
  refine search_loop fuel _ _ _ P l.length (l.findIdx p) v R (fun i hi => by rw [htest, decide_eq_true hi])
    (by rw [htest, decide_eq_false (Nat.lt_irrefl _)]) hstep (fun i hi => ?_) List.findIdx_le_length (fun hlt => ?_) hfuel
  · have hc := hcond i (Nat.lt_of_lt_of_le hi List.findIdx_le_length)
    rw [List.not_of_lt_findIdx hi] at hc
    rw [exec_ite_false hc, exec_skip]
  · have hc := hcond _ hlt
    rw [List.findIdx_getElem (w := hlt)] at hc
    rw [exec_ite_true hc, hhit hlt]

/-- a counting `for` loop that searches and leaves by moving its counter: rounds `0 … f-1` pass, round `f` ends in `Q`, and after the
    step from there (`E`) the test fails -/
theorem search_loop_exit (fuel : Nat) (test inc : Expr) (body : Stmt) (P : Nat → St) (f : Nat) (Q E : St)
    (htest : ∀ i, i ≤ f → testOf (some test) (P i) = .ok (true, P i))
    (hstep : ∀ i, i < f → stepOf (some inc) (P i) = .ok (P (i + 1)))
    (hmiss : ∀ i, i < f → exec fuel body (P i) = .normal (P i))
    (hhit : exec fuel body (P f) = .normal Q) (hstepQ : stepOf (some inc) Q = .ok E)
    (hend : testOf (some test) E = .ok (false, E)) (hfuel : f + 1 < fuel) :
    exec fuel (.for (some test) (some inc) body) (P 0) = .normal E := by
  rw [exec_for]
  have hP : ∀ i, i ≤ f → (if i ≤ f then P i else E) = P i := fun i hi => if_pos hi
  have hE : (if f + 1 ≤ f then P (f + 1) else E) = E := if_neg (Nat.not_succ_le_self f)
  have := loop_count (testOf (some test)) (exec fuel body) (stepOf (some inc)) (f + 1) (fun i => if i ≤ f then P i else E) E
    (fun i hi => by
      have hile : i ≤ f := Nat.le_of_lt_succ hi
      simp only [hP i hile]
      refine ⟨htest i hile, ?_⟩
      rcases Nat.lt_or_eq_of_le hile with hlt | rfl
      · exact ⟨P i, Or.inl (hmiss i hlt), by rw [hP (i + 1) hlt]; exact hstep i hlt⟩
      · exact ⟨Q, Or.inl hhit, by rw [hE]; exact hstepQ⟩)
    (by simp only [hE]; exact hend) fuel hfuel
  simpa only [hP 0 (Nat.zero_le f)] using this

/-- `for (i = 0; test; inc) body` with `n` rounds: the frame is a function `F` of the round, the memory is described by `P` -/
theorem for_upto (fuel n : Nat) (test inc : Expr) (body : Stmt) (F : Nat → List Val) (P : Nat → Mem → Prop)
    (htest : ∀ i mm, i ≤ n → P i mm → testOf (some test) { mem := mm, loc := F i } = .ok (decide (i < n), { mem := mm, loc := F i }))
    (hround : ∀ i mm, i < n → P i mm → ∃ m' L', exec fuel body { mem := mm, loc := F i } = .normal { mem := m', loc := L' } ∧
      stepOf (some inc) { mem := m', loc := L' } = .ok { mem := m', loc := F (i + 1) } ∧ P (i + 1) m')
    (m : Mem) (h0 : P 0 m) (hf : n < fuel) :
    ∃ m', exec fuel (.for (some test) (some inc) body) { mem := m, loc := F 0 } = .normal { mem := m', loc := F n } ∧ P n m' := by
  obtain ⟨R, hl, hloc, hP⟩ := loop_inv (testOf (some test)) (exec fuel body) (stepOf (some inc)) (fun R => R.loc = F n ∧ P n R.mem) n
    (fun i st => st.loc = F i ∧ P i st.mem)
    (by
      rintro i ⟨mm, loc⟩ hi ⟨hloc, hP⟩
      simp only at hloc hP
      subst hloc
      obtain ⟨m', L', hb, hs, hP'⟩ := hround i mm hi hP
      have ht := htest i mm (Nat.le_of_lt hi) hP
      rw [decide_eq_true hi] at ht
      exact ⟨_, _, _, ht, Or.inl hb, hs, rfl, hP'⟩)
    (by
      rintro ⟨mm, loc⟩ ⟨hloc, hP⟩
      simp only at hloc hP
      subst hloc
      have ht := htest n mm (Nat.le_refl n) hP
      rw [decide_eq_false (Nat.lt_irrefl n)] at ht
      exact ⟨_, ht, rfl, hP⟩)
    { mem := m, loc := F 0 } fuel ⟨rfl, h0⟩ hf
  obtain ⟨mm, loc⟩ := R
  simp only at hloc hP
  subst hloc
  exact ⟨mm, by rw [exec_for]; exact hl, hP⟩

/-! ### blocks of bytes -/

/-- a `bool` object as a byte -/
def _root_.Leaf.b2u (f : Bool) : UInt8 := if f then 1 else 0

theorem MemBytes.ptrAdd {m : Mem} {b : Nat} {cells : List UInt8} (h : MemBytes m b cells) (o d : Int)
    (h0 : 0 ≤ o + d) (hle : o + d ≤ cells.length) : ptrAdd m b o d = .ok (.ptr b (o + d)) := by
  obtain ⟨blk, h1, h2, _, h3⟩ := h.blk
  have hl : o + d ≤ (blk.cells.length : Int) := by rw [h3, List.length_map]; exact hle
  simp [mc_eval, MiniC.ptrAdd, Mem.block, h1, h2, h0, hl]

theorem MemPart.ptrAdd {m : Mem} {b : Nat} {pre : List UInt8} {k : Nat} (h : MemPart m b pre k) (o d : Int)
    (h0 : 0 ≤ o + d) (hle : o + d ≤ (pre.length + k : Nat)) : ptrAdd m b o d = .ok (.ptr b (o + d)) := by
  obtain ⟨blk, h1, h2, _, h3⟩ := h.blk
  have hl : o + d ≤ (blk.cells.length : Int) := by
    rw [h3, List.length_append, List.length_map, List.length_replicate]; exact hle
  simp [mc_eval, MiniC.ptrAdd, Mem.block, h1, h2, h0, hl]

/-- `*e` read as a `char`, when `e` points at byte `i` of a block of initialised bytes -/
theorem evalE_load_deref {st st' : St} {e : Expr} {b : Nat} {cells : List UInt8} {i : Nat}
    (he : evalE e st = .ok (.ptr b i, st')) (h : MemBytes st'.mem b cells) (hi : i < cells.length) :
    evalE (.load (.deref e) .i8) st = .ok (.int (sch cells[i]), st') := by
  simp [mc_eval, he, h.load8 i hi]

/-- `*e = rhs` for an object of type `char` -/
theorem evalE_store_deref {st st1 st2 : St} {e rhs : Expr} {b : Nat} {o v : Int} {m' : Mem}
    (he : evalE e st = .ok (.ptr b o, st1)) (hr : evalE rhs st1 = .ok (.int v, st2))
    (hs : st2.mem.store8 b o (wrapTo .i8 v) = .ok m') :
    evalE (.assign (.deref e) rhs .i8) st = .ok (.int (wrapTo .i8 v), { st2 with mem := m' }) := by
  simp [mc_eval, he, hr, convert, hs, Ty.bits]

/-- `*e = (char) n` -/
theorem evalE_store_char_lit {st st1 : St} {e : Expr} {b : Nat} {o : Int} {m' : Mem} (n : Int) (h1 : -128 ≤ n) (h2 : n < 128)
    (he : evalE e st = .ok (.ptr b o, st1)) (hs : st1.mem.store8 b o n = .ok m') :
    evalE (.assign (.deref e) (.cast .i8 (.lit n .i32)) .i8) st = .ok (.int n, { st1 with mem := m' }) := by
  have hw := wrapTo_i8_of_range n h1 h2
  have := evalE_store_deref he (evalE_cast_lit .i8 n st1 (by decide) hw) (by rw [hw]; exact hs)
  rwa [hw] at this

/-- `l = (bool)c` for a byte place and `c` 0 or 1 -/
theorem exec_store_flag {fuel : Nat} {l : LVal} {st st1 : St} {b : Nat} {o : Int} {c : Int} {m1 : Mem} (hc : c = 0 ∨ c = 1)
    (hl : evalL l st = .ok (.mem b o, st1)) (hs : st1.mem.store8 b o c = .ok m1) :
    exec fuel (.expr (.assign l (.cast .bool (.lit c .i32)) .bool)) st = .normal { mem := m1, loc := st1.loc } := by
  have hw : wrapTo .bool c = c := by rcases hc with rfl | rfl <;> decide
  simp only [mc_exec, mc_eval, hl, convert, hw]
  simp [mc_eval, Ty.bits, hw, hs]

/-! ### blocks of words: load, store, `&a[i]`, allocation, one-word cells -/

theorem set_other {m : Mem} {b b' : Nat} {blk : Block} (hne : b' ≠ b) : (m.set b blk)[b']? = m[b']? := by
  simp [Ne.symm hne]

theorem append_get {m : Mem} {l : List Block} {b : Nat} (hb : b < m.length) : (m ++ l)[b]? = m[b]? := List.getElem?_append_left hb

theorem loadSlot_congr {m m' : Mem} {b : Nat} (h : m'[b]? = m[b]?) (i : Int) : m'.loadSlot b i = m.loadSlot b i := by
  simp [Mem.loadSlot, Mem.block, h]

theorem loadSlot_of {m : Mem} {b : Nat} {blk : Block} {i : Nat} {v : Val} (h1 : m[b]? = some blk) (h2 : blk.live = true)
    (h3 : blk.slots[i]? = some v) (hv : v ≠ .undef) : m.loadSlot b (i : Int) = .ok v := by
  have hn : ¬ ((i : Int) < 0) := by omega
  simp only [mc_eval, Mem.loadSlot, Mem.block, h1, h2, hn, if_true, if_false, Int.toNat_natCast, h3]

theorem loadSlot_inv {m : Mem} {b : Nat} {blk : Block} {i : Nat} {v : Val} (h : m.loadSlot b (i : Int) = .ok v) (hb : m[b]? = some blk) :
    blk.slots[i]? = some v ∧ v ≠ .undef ∧ blk.live = true := by
  have hn : ¬ ((i : Int) < 0) := by omega
  simp only [mc_eval, Mem.loadSlot, Mem.block, hb] at h
  by_cases hl : blk.live = true
  · simp only [hl, if_true, hn, if_false, Int.toNat_natCast] at h
    split at h <;> simp_all
  · simp [hl] at h

theorem storeSlot_of {m : Mem} {b : Nat} {blk : Block} {i : Nat} (v : Val) (h1 : m[b]? = some blk) (h2 : blk.live = true) (h3 : blk.writable = true)
    (hi : i < blk.slots.length) : m.storeSlot b (i : Int) v = .ok (m.set b { blk with slots := blk.slots.set i v }) := by
  have hn : ¬ ((i : Int) < 0) := by omega
  simp [mc_eval, Mem.storeSlot, Mem.block, h1, h2, h3, hn, hi]

theorem slotAdd_of {m : Mem} {b : Nat} {blk : Block} (i : Nat) (h1 : m[b]? = some blk) (h2 : blk.live = true) (hi : i ≤ blk.slots.length) :
    slotAdd m b 0 (i : Int) = .ok (.ptr b (i : Int)) := by
  have : (0 : Int) ≤ (i : Int) ∧ (i : Int) ≤ (blk.slots.length : Int) := by omega
  simp [mc_eval, slotAdd, Mem.block, h1, h2, this]

/-- `p->member` -/
theorem evalE_load_slot (P : Expr) (k : Nat) (ty : Ty) (st : St) (b : Nat) (o : Int) (w : Val)
    (hP : evalE P st = .ok (.ptr b o, st)) (hw : st.mem.loadSlot b (o + k) = .ok w) :
    evalE (.load (.slot P k) ty) st = .ok (w, st) := by
  simp only [mc_eval, hP, hw]

/-- `&B[I]` in an array of `stride`-word elements -/
theorem evalE_sidx_of (st st2 : St) (B I : Expr) (b : Nat) (o n : Int) (stride : Nat) (r : Val)
    (hb : evalE B st = .ok (.ptr b o, st)) (hi : evalE I st = .ok (.int n, st2)) (hs : slotAdd st2.mem b o (n * stride) = .ok r) :
    evalE (.sidx B I stride) st = .ok (r, st2) := by
  simp only [mc_eval, hb, hi, hs]

/-- the place `B[I]` in an array of words -/
theorem evalL_word {B I : Expr} {st st1 st2 : St} {a i : Nat} {blk : Block}
    (hB : evalE B st = .ok (.ptr a 0, st1)) (hI : evalE I st1 = .ok (.int (i : Int), st2))
    (ha : st2.mem[a]? = some blk) (hl : blk.live = true) (hi : i ≤ blk.slots.length) :
    evalL (.slot (.sidx B I 1) 0) st = .ok (.slot a (i : Int), st2) := by
  have hsx := slotAdd_of i ha hl hi
  simp only [mc_eval, hB, hI]
  simp [hsx]

/-- `l = e` for a place in a block of words -/
theorem exec_assign_slot {fuel : Nat} {l : LVal} {e : Expr} {ty : Ty} {st st1 st2 : St} {b : Nat} {i : Int} {v0 v : Val} {m' : Mem}
    (hl : evalL l st = .ok (.slot b i, st1)) (he : evalE e st1 = .ok (v0, st2)) (hc : convert ty v0 = .ok v) (hv : v ≠ .undef)
    (hs : st2.mem.storeSlot b i v = .ok m') :
    exec fuel (.expr (.assign l e ty)) st = .normal { mem := m', loc := st2.loc } := by
  simp only [mc_exec, mc_eval, hl, he, hc]
  cases v with
  | undef => exact absurd rfl hv
  | int n => simp only [mc_eval, hs]
  | ptr b o => simp only [mc_eval, hs]
  | null => simp only [mc_eval, hs]

/-- `p->member = E`, `p` a pointer into a block of words -/
theorem exec_assign_member (fuel : Nat) {P E : Expr} {ty : Ty} {st st1 : St} {b k : Nat} (j : Nat) {o : Int} {blk : Block} {v0 v : Val}
    (hP : evalE P st = .ok (.ptr b o, st)) (hE : evalE E st = .ok (v0, st1)) (hc : convert ty v0 = .ok v)
    (hb : st1.mem[b]? = some blk) (hl : blk.live = true) (hw : blk.writable = true) (hj : o + (k : Int) = (j : Int)) (hk : j < blk.slots.length) :
    exec fuel (.expr (.assign (.slot P k) E ty)) st =
      .normal { mem := st1.mem.set b { blk with slots := blk.slots.set j v }, loc := st1.loc } := by
  have hL : evalL (.slot P k) st = .ok (.slot b (j : Int), st) := by simp only [mc_eval, hP, hj]
  exact exec_assign_slot hL hE hc (convert_ne_undef hc) (storeSlot_of v hb hl hw hk)

/-- `x->member++` / `x->member--` on an `int` member -/
theorem incdec_i32_slot (m m' : Mem) (loc : List Val) (e : Expr) (b : Nat) (k : Nat) (n : Int) (inc : Bool)
    (he : evalE e { mem := m, loc := loc } = .ok (.ptr b 0, { mem := m, loc := loc }))
    (hl : m.loadSlot b (k : Int) = .ok (.int n))
    (h1 : -2147483648 ≤ (if inc then n + 1 else n - 1)) (h2 : (if inc then n + 1 else n - 1) < 2147483648)
    (hs : m.storeSlot b (k : Int) (.int (if inc then n + 1 else n - 1)) = .ok m') :
    evalE (.incdec (.slot e k) inc true .i32) { mem := m, loc := loc } = .ok (.int n, { mem := m', loc := loc }) := by
  have hb : binop m (if inc then .add else .sub) .i32 (.int n) (.int 1) = .ok (.int (if inc then n + 1 else n - 1)) := by
    have ha := arith_i32 _ h1 h2
    cases inc <;> simp_all [binop, cmpInt]
  exact evalE_incdec_of (st1 := ⟨m, loc⟩) (p := .slot b k) (r' := .int (if inc then n + 1 else n - 1)) (by simp only [mc_eval, he, Int.zero_add]) hl hb
    rfl (by simp [convert, wrapTo_i32 _ h1 h2]) (by simp [writePlace, hs, Except.map])

/-- `(*p)++` on a `size_t` object -/
theorem incdec_u64_slot (m m' : Mem) (loc : List Val) (e : Expr) (b : Nat) (n : Nat)
    (he : evalE e { mem := m, loc := loc } = .ok (.ptr b 0, { mem := m, loc := loc }))
    (hl : m.loadSlot b 0 = .ok (.int (n : Int))) (h2 : (n : Int) + 1 < 18446744073709551616)
    (hs : m.storeSlot b 0 (.int ((n : Int) + 1)) = .ok m') :
    evalE (.incdec (.slot e 0) true true .u64) { mem := m, loc := loc } = .ok (.int (n : Int), { mem := m', loc := loc }) := by
  have hw : wrapTo .u64 ((n : Int) + 1) = (n : Int) + 1 := wrapTo_u64_small _ (by omega) h2
  exact evalE_incdec_of (st1 := ⟨m, loc⟩) (p := .slot b 0) (by simp only [mc_eval, he]; rfl) hl (by simp [binop, cmpInt, arith_u64, hw])
    rfl (convert_u64_small _ (by omega) h2) (by simp [writePlace, hs, Except.map])

/-- `malloc` / `alloca` of `n` words: a new last block of `n` uninitialised words -/
theorem alloc_words_spec (m : Mem) (n : Int) :
    builtin "malloc_words" [.int n] m = .ok (.ptr m.length 0, m ++ [{ cells := [], slots := List.replicate n.toNat .undef }]) ∧
    builtin "alloca_words" [.int n] m = .ok (.ptr m.length 0, m ++ [{ cells := [], slots := List.replicate n.toNat .undef }]) := by
  simp [builtin_malloc_words, builtin_alloca_words, Mem.allocWords]

theorem free_spec (m : Mem) (b : Nat) (blk : Block) (h1 : m[b]? = some blk) (h2 : blk.live = true) :
    builtin "free" [.ptr b 0] m = .ok (.int 0, m.set b { blk with live := false }) := by
  simp [mc_eval, builtin_free, Mem.block, h1, h2]

/-- a block of one word; `l.set 0 v` is what `storeSlot_of` leaves -/
theorem set0_single {l : List Val} (h : l.length = 1) (v : Val) : l.set 0 v = [v] := by
  match l, h with
  | [w], _ => rfl

/-- the place `*p` for a pointer variable -/
theorem evalL_cell (vk : Nat) (mm : Mem) (loc : List Val) (c : Nat) (hk : loc[vk]? = some (.ptr c 0)) :
    evalL (.slot (.load (.var vk) .ptr) 0) { mem := mm, loc := loc } = .ok (.slot c 0, { mem := mm, loc := loc }) := by
  simp [mc_eval, hk]

/-- `*p` for a one-word cell -/
theorem cell_load (vk : Nat) (ty : Ty) (mm : Mem) (loc : List Val) (c : Nat) (blk : Block) (v : Val) (hk : loc[vk]? = some (.ptr c 0))
    (hc : mm[c]? = some { blk with slots := [v] }) (hl : blk.live = true) (hv : v ≠ .undef) :
    evalE (.load (.slot (.load (.var vk) .ptr) 0) ty) { mem := mm, loc := loc } = .ok (v, { mem := mm, loc := loc }) :=
  evalE_load_slot _ 0 ty _ c 0 v (evalE_var hk (by simp)) (by simpa using loadSlot_of (i := 0) hc hl rfl hv)

/-- `*p = e` for a one-word cell -/
theorem cell_store (fuel : Nat) (vk : Nat) (e : Expr) (ty : Ty) (mm m1 : Mem) (loc loc1 : List Val) (c : Nat) (blk : Block) (v0 v : Val)
    (hk : loc[vk]? = some (.ptr c 0)) (he : evalE e { mem := mm, loc := loc } = .ok (v0, { mem := m1, loc := loc1 }))
    (hcv : convert ty v0 = .ok v) (hv : v ≠ .undef)
    (hc : m1[c]? = some blk) (hl : blk.live = true) (hw : blk.writable = true) (h1 : blk.slots.length = 1) :
    exec fuel (.expr (.assign (.slot (.load (.var vk) .ptr) 0) e ty)) { mem := mm, loc := loc } =
      .normal { mem := m1.set c { blk with slots := [v] }, loc := loc1 } := by
  have hs := storeSlot_of (i := 0) v hc hl hw (by omega)
  rw [set0_single h1] at hs
  exact exec_assign_slot (evalL_cell vk mm loc c hk) he hcv hv hs

/-- every block of `m` other than `L` is the same block of `m'` -/
def SameBut (L : Nat) (m m' : Mem) : Prop := m.length ≤ m'.length ∧ ∀ b, b < m.length → b ≠ L → m'[b]? = m[b]?

theorem SameBut.trans {L : Nat} {m1 m2 m3 : Mem} (h1 : SameBut L m1 m2) (h2 : SameBut L m2 m3) : SameBut L m1 m3 :=
  ⟨Nat.le_trans h1.1 h2.1, fun b hb hne => by rw [h2.2 b (Nat.lt_of_lt_of_le hb h1.1) hne, h1.2 b hb hne]⟩

theorem SameBut.set (L : Nat) (m : Mem) (blk : Block) : SameBut L m (m.set L blk) :=
  ⟨by simp, fun _ _ hne => set_other hne⟩

theorem loadWords_of {m : Mem} {b : Nat} {blk : Block} {o n : Nat} (h1 : m[b]? = some blk) (h2 : blk.live = true) (h3 : o + n ≤ blk.slots.length) :
    m.loadWords b (o : Int) n = .ok ((blk.slots.drop o).take n) := by
  have hn : ¬ ((o : Int) < 0) := by omega
  simp [mc_eval, Mem.loadWords, Mem.block, h1, h2, hn, h3]

theorem storeWords_of {m : Mem} {b : Nat} {blk : Block} {o : Nat} (vs : List Val) (h1 : m[b]? = some blk) (h2 : blk.live = true) (h3 : blk.writable = true)
    (h4 : o + vs.length ≤ blk.slots.length) :
    m.storeWords b (o : Int) vs = .ok (m.set b { blk with slots := blk.slots.take o ++ vs ++ blk.slots.drop (o + vs.length) }) := by
  have hn : ¬ ((o : Int) < 0) := by omega
  simp [mc_eval, Mem.storeWords, Mem.block, h1, h2, h3, hn, h4]

/-- `*D = *S` for a `struct file_entry` (7 words) -/
theorem exec_copy_words (fuel : Nat) (D S : Expr) (st st2 st3 : St) (d s : Nat) (od os : Int) (ws : List Val) (m' : Mem)
    (hd : evalE D st = .ok (.ptr d od, st2)) (hs : evalE S st2 = .ok (.ptr s os, st3))
    (hl : st3.mem.loadWords s os 7 = .ok ws) (hw : st3.mem.storeWords d od ws = .ok m') :
    exec fuel (.expr (.call "copy_words" (.cons D (.cons S (.cons (.lit 7 .u64) .nil))))) st = .normal { mem := m', loc := st3.loc } := by
  simp only [mc_exec, mc_eval, hd, hs]
  simp [mc_eval, builtin_copy_words, hl, hw]

theorem realloc_words_spec (m : Mem) (b : Nat) (blk : Block) (n : Nat) (h1 : m[b]? = some blk) (h2 : blk.live = true) :
    builtin "realloc_words" [.ptr b 0, .int (n : Int)] m =
      .ok (.ptr m.length 0, m.set b { blk with live := false } ++
        [{ cells := [], slots := blk.slots.take n ++ List.replicate (n - (blk.slots.take n).length) .undef }]) := by
  simp [mc_eval, builtin_realloc_words, Mem.block, h1, h2]

theorem loadSlot_lt {m : Mem} {b : Nat} {i : Int} {v : Val} (h : m.loadSlot b i = .ok v) : b < m.length := by
  cases hb : m[b]? with
  | none => simp [mc_eval, Mem.loadSlot, Mem.block, hb] at h
  | some blk => exact (List.getElem?_eq_some_iff.1 hb).1

/-- `p->member` for the pointer `p` in variable 0 -/
theorem kf_slot (mm : Mem) (loc : List Val) (bk k : Nat) (kb : Block) (v : Val) (ty : Ty) (hl0 : loc[0]? = some (.ptr bk 0))
    (hk : mm[bk]? = some kb) (hlive : kb.live = true) (hv : kb.slots[k]? = some v) (hu : v ≠ .undef) :
    evalE (.load (.slot (.load (.var 0) .ptr) k) ty) { mem := mm, loc := loc } = .ok (v, { mem := mm, loc := loc }) :=
  evalE_load_slot _ k ty _ bk 0 v (evalE_var (ty := .ptr) hl0 (by simp)) (by rw [Int.zero_add]; exact loadSlot_of hk hlive hv hu)

/-- `free(v)` for a variable that points at a live block -/
theorem exec_free_var (fuel v : Nat) (mm : Mem) (loc : List Val) (b : Nat) (blk : Block) (hl : loc[v]? = some (.ptr b 0))
    (h1 : mm[b]? = some blk) (h2 : blk.live = true) :
    exec fuel (.expr (.call "free" (.cons (.load (.var v) .ptr) .nil))) { mem := mm, loc := loc } =
      .normal { mem := mm.set b { blk with live := false }, loc := loc } := by
  simp [mc_exec, mc_eval, hl, free_spec mm b blk h1 h2]

theorem set_append_mid {α : Type} (X : List α) (c c' : α) (Y : List α) : (X ++ [c] ++ Y).set X.length c' = X ++ [c'] ++ Y := by
  rw [List.append_assoc, List.set_append_right _ _ (Nat.le_refl _), Nat.sub_self, List.append_assoc]
  rfl

/-! ### C strings in memory, `strdup`, `strcmp` -/

/-- what `cstrFrom` has read when it succeeds: the bytes of `s`, none of them 0, and the terminator (the converse of `cstrFrom_str`) -/
theorem cstrFrom_ok : ∀ (l : List (Option UInt8)) (s : List UInt8), cstrFrom l = .ok s →
    (0 : UInt8) ∉ s ∧ ∃ rest, l = s.map some ++ some 0 :: rest
  | [], s, h => by simp [cstrFrom] at h
  | none :: _, s, h => by simp [cstrFrom] at h
  | some c :: rest, s, h => by
    simp only [cstrFrom] at h
    by_cases hc : c = 0
    · subst hc
      simp at h
      subst h
      exact ⟨List.not_mem_nil, rest, rfl⟩
    · have hc' : (c == 0) = false := by simpa using hc
      simp only [hc', Bool.false_eq_true, if_false] at h
      cases hr : cstrFrom rest with
      | error e => simp [mc_eval, hr] at h
      | ok r =>
        simp only [mc_eval, hr] at h
        injection h with h
        subst h
        obtain ⟨hz, rest', hl⟩ := cstrFrom_ok rest r hr
        refine ⟨fun hm => ?_, rest', by rw [hl]; rfl⟩
        rcases List.mem_cons.1 hm with h0 | h0
        · exact hc h0.symm
        · exact hz h0

theorem cstr_nz {m : Mem} {b : Nat} {o : Int} {s : List UInt8} (h : m.cstr b o = .ok s) : (0 : UInt8) ∉ s := by
  simp only [mc_eval, Mem.cstr] at h
  split at h
  · simp at h
  · split at h
    · simp at h
    · split at h
      · exact (cstrFrom_ok _ _ h).1
      · simp at h

theorem cstr_congr {m m' : Mem} {b : Nat} (h : m'[b]? = m[b]?) (o : Int) : m'.cstr b o = m.cstr b o := by
  simp [Mem.cstr, Mem.block, h]

theorem cstr_lt {m : Mem} {b : Nat} {o : Int} {s : List UInt8} (h : m.cstr b o = .ok s) : b < m.length := by
  cases hb : m[b]? with
  | none => simp [mc_eval, Mem.cstr, Mem.block, hb] at h
  | some blk => exact (List.getElem?_eq_some_iff.1 hb).1

/-- the strings of a memory do not depend on the words of its blocks -/
theorem cstr_set_slots {m : Mem} {b : Nat} {blk : Block} (hb : m[b]? = some blk) (sl : List Val) (b' : Nat) (o : Int) :
    Mem.cstr (m.set b { blk with slots := sl }) b' o = m.cstr b' o := by
  by_cases h : b' = b
  · subst h
    have hlt : b' < m.length := (List.getElem?_eq_some_iff.1 hb).1
    have hnew : (m.set b' { blk with slots := sl })[b']? = some { blk with slots := sl } := by simp [hlt]
    simp only [Mem.cstr, Mem.block, hb, hnew]
    cases blk.live <;> simp [mc_eval]
  · exact cstr_congr (set_other h) o

theorem no_cstr {m : Mem} {b : Nat} {blk : Block} (h1 : m[b]? = some blk) (h2 : blk.cells = []) (str : List UInt8) : m.cstr b 0 ≠ .ok str := by
  cases hl : blk.live <;> simp [mc_eval, Mem.cstr, Mem.block, h1, hl, h2, cstrFrom]

theorem lit_cstr (m : Mem) (bs : List UInt8) (hz : (0 : UInt8) ∉ bs) :
    (m ++ [({ cells := (bs ++ [0]).map some, writable := false } : Block)]).cstr m.length 0 = .ok bs := by
  have := cstrFrom_str bs hz []
  simp [mc_eval, Mem.cstr, Mem.block, this]

def headCh : List UInt8 → Int
  | [] => 0
  | c :: _ => sch c

/-- first byte of a C string, as `char` -/
theorem cstr_head {m : Mem} {b : Nat} {s : List UInt8} (h : m.cstr b 0 = .ok s) :
    m.load8 b 0 = .ok (headCh s) := by
  simp only [mc_eval, Mem.cstr] at h
  cases hb : m.block b with
  | error e => simp [hb] at h
  | ok blk =>
    simp only [hb, Int.lt_irrefl, if_false, Int.toNat_zero, Nat.zero_le, if_true, List.drop_zero] at h
    obtain ⟨_, rest, hc⟩ := cstrFrom_ok _ _ h
    cases s with
    | nil =>
      simp [mc_eval, Mem.load8, hb, hc, headCh]
      decide
    | cons c cs => simp [mc_eval, Mem.load8, hb, hc, sch, headCh]

theorem strdup_spec (m : Mem) (b : Nat) (o : Int) (s : List UInt8) (h : m.cstr b o = .ok s) :
    ∃ m', builtin "strdup" [.ptr b o] m = .ok (.ptr m.length 0, m') ∧ MemBytes m' m.length (s ++ [0]) ∧
      m'.length = m.length + 1 ∧ ∀ b', b' < m.length → m'[b']? = m[b']? := by
  obtain ⟨a1, a2, a3, a4⟩ := alloc_spec m (s.length + 1)
  have hp : MemPart (m.alloc (s.length + 1)).1 m.length [] ((s ++ [0]).length + 0) := by simpa using a2
  obtain ⟨m', hs, hm', hl, ho⟩ := hp.storeBytes (s ++ [0])
  refine ⟨m', ?_, by simpa using hm'.toBytes, by rw [hl, a3], fun b' hb' => by rw [ho b' (by omega), a4 b' hb']⟩
  simp only [List.length_nil, Int.natCast_zero] at hs
  have e : (m.alloc (s.length + 1)) = ((m.alloc (s.length + 1)).1, m.length) := by rw [← a1]
  simp only [mc_eval, builtin_strdup, h]
  rw [e]
  simp [hs]

/-- `strdup("…")`: the literal is a read-only block, the copy the block behind it -/
theorem strdup_lit (m : Mem) (loc : List Val) (bs : List UInt8) (hz : (0 : UInt8) ∉ bs) :
    ∃ m1, evalE (.call "strdup" (.cons (.strlit bs) .nil)) { mem := m, loc := loc } = .ok (.ptr (m.length + 1) 0, { mem := m1, loc := loc }) ∧
      MemBytes m1 (m.length + 1) (bs ++ [0]) ∧ (∀ b, b < m.length → m1[b]? = m[b]?) ∧
      (∀ b blk, m.length ≤ b → b ≠ m.length + 1 → m1[b]? = some blk → blk.writable = false) := by
  obtain ⟨m1, d1, d2, d3, d4⟩ := strdup_spec _ _ _ _ (lit_cstr m bs hz)
  simp only [List.length_append, List.length_singleton] at d1 d2 d3 d4
  refine ⟨m1, by simp only [mc_eval, d1], d2, fun b hb => by rw [d4 b (by omega), List.getElem?_append_left hb], ?_⟩
  intro b blk hb1 hb2 hb3
  have hlt : b < m1.length := (List.getElem?_eq_some_iff.1 hb3).1
  have : b = m.length := by omega
  subst this
  rw [d4 _ (by omega), List.getElem?_append_right (Nat.le_refl _), Nat.sub_self] at hb3
  rw [← Option.some.inj hb3]

/-- `l = strdup(e)` for a place `l` in a block of words: the copy is the new last block, its address goes into the word -/
theorem exec_strdup_word {fuel : Nat} {l : LVal} {e : Expr} {st st1 st2 : St} {a i sb : Nat} {sl : List Val} {s : List UInt8}
    (hl : evalL l st = .ok (.slot a (i : Int), st1)) (he : evalE e st1 = .ok (.ptr sb 0, st2)) (hs : st2.mem.cstr sb 0 = .ok s)
    (ha : st2.mem[a]? = some { cells := [], slots := sl }) (hi : i < sl.length) :
    ∃ m', exec fuel (.expr (.assign l (.call "strdup" (.cons e .nil)) .ptr)) st = .normal { mem := m', loc := st2.loc } ∧
      m'.length = st2.mem.length + 1 ∧ m'[a]? = some { cells := [], slots := sl.set i (.ptr st2.mem.length 0) } ∧
      m'.cstr st2.mem.length 0 = .ok s ∧ ∀ b, b < st2.mem.length → b ≠ a → m'[b]? = st2.mem[b]? := by
  obtain ⟨m5, hsd, hm5b, hm5len, hm5fr⟩ := strdup_spec st2.mem sb 0 s hs
  have halt : a < st2.mem.length := (List.getElem?_eq_some_iff.1 ha).1
  have hm5a : m5[a]? = some { cells := [], slots := sl } := by rw [hm5fr a halt]; exact ha
  have hst := storeSlot_of (i := i) (.ptr st2.mem.length 0) hm5a rfl rfl hi
  have hcall : evalE (.call "strdup" (.cons e .nil)) st1 = .ok (.ptr st2.mem.length 0, { mem := m5, loc := st2.loc }) := by
    simp only [mc_eval, he, hsd]
  refine ⟨_, exec_assign_slot (st2 := { mem := m5, loc := st2.loc }) (v0 := .ptr st2.mem.length 0) (v := .ptr st2.mem.length 0) hl hcall rfl (by simp) hst, by simp [hm5len], ?_, ?_, fun b hb hne => ?_⟩
  · rw [List.getElem?_set_self (by omega)]
  · rw [cstr_congr (set_other (Nat.ne_of_gt halt))]
    exact hm5b.cstr0 (rest := []) (cstr_nz hs)
  · rw [set_other hne, hm5fr b hb]

theorem cmpBytes_eq_zero : ∀ (s t : List UInt8), (0 : UInt8) ∉ s → (0 : UInt8) ∉ t → (cmpBytes s t = 0 ↔ s = t)
  | [], [], _, _ => by simp [cmpBytes]
  | [], b :: bs, _, ht => by
    simp only [cmpBytes, reduceCtorEq, iff_false]
    intro h0
    apply ht
    have : b = 0 := UInt8.toNat_inj.1 (by simp; omega)
    simp [this]
  | a :: as, [], hs, _ => by
    simp only [cmpBytes, reduceCtorEq, iff_false]
    intro h0
    apply hs
    have : a = 0 := UInt8.toNat_inj.1 (by simp; omega)
    simp [this]
  | a :: as, b :: bs, hs, ht => by
    simp only [cmpBytes]
    have hs' : (0 : UInt8) ∉ as := fun h => hs (List.mem_cons_of_mem _ h)
    have ht' : (0 : UInt8) ∉ bs := fun h => ht (List.mem_cons_of_mem _ h)
    by_cases h : a = b
    · subst h; simp [cmpBytes_eq_zero as bs hs' ht']
    · have : (a == b) = false := by simpa using h
      simp only [this, Bool.false_eq_true, if_false, List.cons.injEq, h, false_and, iff_false]
      intro h0
      apply h
      apply UInt8.toNat_inj.1
      omega

/-- the result of `strcmp` as a condition -/
theorem cmpBytes_bne (s t : List UInt8) (hs : (0 : UInt8) ∉ s) (ht : (0 : UInt8) ∉ t) : (cmpBytes s t != 0) = (s != t) := by
  by_cases h : s = t
  · subst h
    rw [(cmpBytes_eq_zero s s hs hs).2 rfl]
    simp
  · have h1 : (cmpBytes s t != 0) = true := bne_iff_ne.2 (fun hq => h ((cmpBytes_eq_zero _ _ hs ht).1 hq))
    have h2 : (s != t) = true := bne_iff_ne.2 h
    rw [h1, h2]

/-- `strcmp(A, B)` on two strings -/
theorem strcmp_eval {A B : Expr} {st st1 st2 : St} {a b : Nat} {s t : List UInt8}
    (hA : evalE A st = .ok (.ptr a 0, st1)) (hB : evalE B st1 = .ok (.ptr b 0, st2))
    (hs : st2.mem.cstr a 0 = .ok s) (ht : st2.mem.cstr b 0 = .ok t) :
    evalE (.call "strcmp" (.cons A (.cons B .nil))) st = .ok (.int (cmpBytes s t), st2) := by
  simp only [mc_eval, hA, hB, builtin_strcmp, hs, ht]

/-- `!strcmp(a, b)` tells whether the two strings are equal -/
theorem lnot_strcmp {A B : Expr} {st : St} {a b : Nat} {s t : List UInt8}
    (hA : evalE A st = .ok (.ptr a 0, st)) (hB : evalE B st = .ok (.ptr b 0, st))
    (hs : st.mem.cstr a 0 = .ok s) (ht : st.mem.cstr b 0 = .ok t) :
    evalE (.un .lnot (.call "strcmp" (.cons A (.cons B .nil))) .i32) st = .ok (boolVal (s == t), st) := by
  have hz : (!(cmpBytes s t != 0)) = (s == t) := by
    rw [cmpBytes_bne s t (cstr_nz hs) (cstr_nz ht)]
    simp [bne]
  rw [evalE_un, strcmp_eval hA hB hs ht]
  simp only [mc_eval, unop, truth, hz]

/-- `strcmp(E, "literal")`: the literal becomes a read-only block of its own behind the memory -/
theorem _root_.LeafKf.strcmp_lit_eval (E : Expr) (st : St) (bg : Nat) (s lit : List UInt8) (hE : evalE E st = .ok (.ptr bg 0, st))
    (hs : st.mem.cstr bg 0 = .ok s) (hz : (0 : UInt8) ∉ lit) :
    evalE (.call "strcmp" (.cons E (.cons (.strlit lit) .nil))) st =
      .ok (.int (cmpBytes s lit), { mem := st.mem ++ [{ cells := (lit ++ [0]).map some, writable := false }], loc := st.loc }) := by
  have hgs : (st.mem ++ [({ cells := (lit ++ [0]).map some, writable := false } : Block)]).cstr bg 0 = .ok s := by
    rw [cstr_congr (append_get (cstr_lt hs))]; exact hs
  exact strcmp_eval hE (evalE_strlit _ lit) hgs (lit_cstr st.mem lit hz)

/-- `!strcmp(E, "literal")` as a condition: is the string the literal -/
theorem not_strcmp_lit_test (E : Expr) (st : St) (bg : Nat) (s lit : List UInt8) (hE : evalE E st = .ok (.ptr bg 0, st))
    (hs : st.mem.cstr bg 0 = .ok s) (hz : (0 : UInt8) ∉ lit) :
    testOf (some (.un .lnot (.call "strcmp" (.cons E (.cons (.strlit lit) .nil))) .i32)) st =
      .ok (decide (s = lit), { mem := st.mem ++ [{ cells := (lit ++ [0]).map some, writable := false }], loc := st.loc }) := by
  have hcall := LeafKf.strcmp_lit_eval E st bg s lit hE hs hz
  have hiff := cmpBytes_eq_zero s lit (cstr_nz hs) hz
  generalize (Expr.call "strcmp" (.cons E (.cons (.strlit lit) .nil))) = C at hcall ⊢
  by_cases hq : s = lit
  · subst hq
    simp [mc_eval, testOf, hcall, hiff.2 rfl, unop, truth, boolVal]
  · have q1 : cmpBytes s lit ≠ 0 := fun hh => hq (hiff.1 hh)
    simp [mc_eval, testOf, hcall, unop, truth, boolVal, q1, hq]

/-! ### lists: frames with variables set, a window replaced, the prefix before the first hit -/

theorem get_set_ne {l : List Val} {i j : Nat} {v w : Val} (hne : j ≠ i) (h : l[i]? = some w) : (l.set j v)[i]? = some w := by
  rw [List.getElem?_set_ne hne]; exact h

theorem getElem?_set_set_ne {loc : List Val} {a b k : Nat} {x y : Val} (ha : a ≠ k) (hb : b ≠ k) : ((loc.set a x).set b y)[k]? = loc[k]? := by
  rw [List.getElem?_set_ne hb, List.getElem?_set_ne ha]

theorem not_mem_pair {a b n x : Nat} (ha : a < n) (hb : b < n) (hx : n ≤ x) : x ∉ [a, b] := by
  simp only [List.mem_cons, List.not_mem_nil, or_false]
  omega

theorem splice_in {α} (l ws : List α) (n w k : Nat) (hn : n ≤ l.length) (hw : ws.length = w) (hk : k < w) :
    (l.take n ++ ws ++ l.drop (n + w))[n + k]? = ws[k]? := by
  have htk : (l.take n).length = n := by rw [List.length_take]; omega
  rw [List.append_assoc, List.getElem?_append_right (by omega), htk, Nat.add_sub_cancel_left, List.getElem?_append_left (by omega)]

theorem splice_out {α} (l ws : List α) (n w i : Nat) (hl : n + w ≤ l.length) (hw : ws.length = w) (hi : i < n ∨ n + w ≤ i) :
    (l.take n ++ ws ++ l.drop (n + w))[i]? = l[i]? := by
  have htk : (l.take n).length = n := by rw [List.length_take]; omega
  rcases hi with hi | hi
  · rw [List.append_assoc, List.getElem?_append_left (by omega), List.getElem?_take_of_lt hi]
  · rw [List.getElem?_append_right (by rw [List.length_append, htk, hw]; exact hi), List.length_append, htk, hw, List.getElem?_drop]
    congr 1
    omega

theorem splice_length {α} (l ws : List α) (n w : Nat) (hl : n + w ≤ l.length) (hw : ws.length = w) :
    (l.take n ++ ws ++ l.drop (n + w)).length = l.length := by
  simp only [List.length_append, List.length_take, List.length_drop, hw]
  omega

theorem replicate_pos {α : Type} {n : Nat} (x : α) (hn : 0 < n) : List.replicate n x = x :: List.replicate (n - 1) x := by
  obtain ⟨k, rfl⟩ : ∃ k, n = k + 1 := ⟨n - 1, by omega⟩
  rfl

theorem set_append_replicate {α : Type} (pre : List α) (n k : Nat) (x y : α) (hk : k = pre.length) (hn : 0 < n) :
    (pre ++ List.replicate n x).set k y = pre ++ [y] ++ List.replicate (n - 1) x := by
  subst hk
  rw [List.set_append_right _ _ (Nat.le_refl _), Nat.sub_self, replicate_pos x hn, List.set_cons_zero, List.append_assoc]
  rfl

theorem set_set_other {l : List Val} {a b : Nat} (h : b ≠ a) (x y x' : Val) : ((l.set a x).set b y).set a x' = (l.set a x').set b y := by
  rw [List.set_comm _ _ h, List.set_set]

theorem length_takeWhile_not {α} (p : α → Bool) (l : List α) : (l.takeWhile (fun a => !p a)).length = l.findIdx p := by
  rw [List.takeWhile_eq_take_findIdx_not, List.length_take]
  simp only [Bool.not_not]
  exact Nat.min_eq_left List.findIdx_le_length

theorem decide_findIdx_lt {α} (p : α → Bool) (l : List α) : decide (l.findIdx p < l.length) = l.any p := by
  rw [List.any_eq]
  exact decide_eq_decide.2 List.findIdx_lt_length

end MiniC
