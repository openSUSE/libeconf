import Econf.Lemmas.DocLemmas
import Econf.Props.C17
import Econf.Writer

/-!
  The written file as a document of the conventional grammar (`docOf`), its rendering
  (`render_docOf`: exactly the bytes of `writeSeq`), its well-formedness (`docOf_wf`) and what it
  reads back as (`doc_reread`).  Used by `Econf/Props/C07.lean`.
-/


namespace Econf


/-- a value with an unambiguous textual form (DESIGN.md 5.4), given with its spelling -/
inductive WVal where
  | absent
  | quoted (q : Str)
  | plain (l0 : Str) (conts : List ContLine)
  deriving Repr

/-- an entry of an object with an unambiguous textual form -/
structure WEntry where
  group : Str
  key : Str
  val : WVal
  cb : Option Str
  ca : Option Str
  line : Nat
  deriving Repr

def WVal.value : WVal → Option Str
  | .absent => none
  | .quoted q => some q
  | .plain l0 conts => some (l0 ++ conts.flatMap (fun l => NL :: l.render))

def WVal.quotes : WVal → Bool
  | .quoted _ => true
  | _ => false

/-- the entry as the object holds it -/
def WEntry.toEntry (w : WEntry) : Entry :=
  { group := w.group, key := w.key, value := w.val.value, cb := w.cb, ca := w.ca, line := w.line, quotes := w.val.quotes }

def hasText : Option Str → Bool
  | some t => !t.isEmpty
  | none => false

theorem hasText_some {o : Option Str} (h : hasText o = true) : ∃ t, o = some t ∧ t ≠ [] := by
  cases o with
  | none => cases h
  | some t =>
    cases t with
    | nil => cases h
    | cons a as => exact ⟨_, rfl, List.cons_ne_nil a as⟩

theorem getD_of_not_hasText {o : Option Str} (h : hasText o = false) : o.getD [] = [] := by
  cases o with
  | none => rfl
  | some t =>
    cases t with
    | nil => rfl
    | cons a as => cases h

/-- the entry line (and continuation lines) the writer produces, as an item of the grammar -/
def WEntry.entryI (d c : Byte) (w : WEntry) : EntryI :=
  { indent := [], key := w.key, ws1 := [], d := d, ws2 := []
    value := (match w.val with
      | .absent => .plain []
      | .quoted q => .quoted q
      | .plain l0 _ => .plain l0)
    tws := if hasText w.ca then [0x20] else []
    tc := if hasText w.ca then some ⟨c, w.ca.getD []⟩ else none
    cont := (match w.val with
      | .plain _ conts => conts
      | _ => []) }

/-- the comment lines written before a key -/
def cbItems (c : Byte) (cb : Option Str) : List Item :=
  if hasText cb then (splitOn NL (cb.getD [])).map (fun l => Item.comment [] c l) else []

/-- everything the writer produces for one entry; `prev` = section of the entry written before -/
def hdrItems (prev : Option Str) (g : Str) : List Item :=
  if prev == some g then []
  else (if prev.isSome then [Item.blank []] else []) ++
       (if g == NONE then [] else [Item.sect [] g [] none])

def WEntry.items (d c : Byte) (prev : Option Str) (w : WEntry) : List Item :=
  hdrItems prev w.group ++
  cbItems c w.cb ++ [Item.entry (w.entryI d c)] ++ (if hasText w.ca then [Item.blank []] else [])

def docOf (d c : Byte) : Option Str → List WEntry → List Item
  | _, [] => []
  | prev, w :: ws => w.items d c prev ++ docOf d c (some w.group) ws

theorem render_append (a b : List Item) : render (a ++ b) = render a ++ render b := by
  simp [render, renderLines]

theorem render_nil : render [] = [] := rfl

theorem render_single (it : Item) : render [it] = it.lines.flatten := by
  simp [render, renderLines]

theorem commentLines_items (c : Byte) (t : Str) :
    commentLines [] c t = render ((splitOn NL t).map (fun l => Item.comment [] c l)) := by
  unfold commentLines render renderLines
  generalize splitOn NL t = ps
  induction ps with
  | nil => rfl
  | cons p ps ih =>
    simp only [List.nil_append] at ih
    simp only [List.map_cons, List.flatten_cons, List.flatMap_cons, List.flatten_append, Item.lines,
      List.nil_append, List.flatten_nil, List.append_nil, ih]


theorem mem_splitOn (c : Byte) (t p : Str) (hp : p ∈ splitOn c t) : ∀ x ∈ p, x ∈ t ∧ x ≠ c := by
  induction t generalizing p with
  | nil => simp [splitOn] at hp; subst hp; intro x hx; cases hx
  | cons a as ih =>
    unfold splitOn at hp
    by_cases hac : (a == c) = true
    · simp only [hac, if_true, List.mem_cons] at hp
      rcases hp with rfl | hp
      · intro x hx; cases hx
      · intro x hx; have := ih p hp x hx; exact ⟨List.mem_cons_of_mem _ this.1, this.2⟩
    · simp only [hac, Bool.false_eq_true, if_false] at hp
      cases hs : splitOn c as with
      | nil => 
        rw [hs] at hp; simp only [List.mem_singleton] at hp; subst hp
        intro x hx; simp only [List.mem_singleton] at hx; subst hx
        exact ⟨by simp, by simpa using hac⟩
      | cons q qs =>
        rw [hs] at hp
        simp only [List.mem_cons] at hp
        rcases hp with rfl | hp
        · intro x hx
          rcases List.mem_cons.mp hx with rfl | hx
          · exact ⟨by simp, by simpa using hac⟩
          · have := ih q (by rw [hs]; simp) x hx; exact ⟨List.mem_cons_of_mem _ this.1, this.2⟩
        · intro x hx
          have := ih p (by rw [hs]; simp [hp]) x hx; exact ⟨List.mem_cons_of_mem _ this.1, this.2⟩

/-- the single-line values -/
def WVal.single : WVal → Bool
  | .plain _ conts => conts.isEmpty
  | _ => true

/-- the unambiguous textual form of DESIGN.md 5.4 for an entry written with delimiter `d` and comment character `c`.
    `cb` is written as whole comment lines, so any bytes but NUL read back; `ca` shares the line of the value: one line
    of text without `c` and quote, on a single-line value.  A group name already in brackets is excluded because
    `addBrackets` leaves it alone and the header would read back without them. -/
structure WEntry.WF (d c : Byte) (w : WEntry) : Prop where
  grp : w.group ≠ NONE → w.group ≠ [] ∧ (∀ ch ∈ w.group, isText ch = true ∧ ch ≠ c) ∧ ¬(w.group.head? = some LBR ∧ w.group.getLast? = some RBR)
  keyNe : w.key ≠ []
  keyCh : ∀ ch ∈ w.key, isText ch = true ∧ isSpace ch = false ∧ ch ≠ d ∧ ch ≠ c ∧ ch ≠ QUOTE
  keyHead : w.key.head? ≠ some LBR
  val : match w.val with
    | .absent => True
    | .quoted q => texts q
    | .plain l0 conts =>
        texts l0 ∧ c ∉ l0 ∧ (∀ ch, l0.head? = some ch → isSpace ch = false ∧ ch ≠ QUOTE) ∧
        (∀ ch, l0.getLast? = some ch → isSpace ch = false) ∧ (conts ≠ [] → l0 ≠ []) ∧
        ∀ l ∈ conts, l.WF { delim := [d], comment := [c] }
  cb : ∀ t, w.cb = some t → ∀ ch ∈ t, ch ≠ 0
  ca : ∀ t, w.ca = some t → t ≠ [] → texts t ∧ c ∉ t ∧ QUOTE ∉ t ∧ w.val.single = true

theorem conts_render (l0 : Str) (conts : List ContLine) :
    l0 ++ conts.flatMap (fun l => NL :: l.render) ++ [NL] =
      (l0 ++ [NL]) ++ (conts.map (fun l => l.render ++ [NL])).flatten := by
  induction conts generalizing l0 with
  | nil => simp
  | cons l ls ih =>
    have := ih (l0 ++ NL :: l.render)
    simp only [List.flatMap_cons, List.map_cons, List.flatten_cons, List.append_assoc, List.cons_append, List.nil_append] at this ⊢
    rw [this]

def cbPart (c : Byte) (cb : Option Str) : Str :=
  match cb with
  | some t => if t.isEmpty then [] else commentLines [] c t
  | none => []
def caPart (c : Byte) (ca : Option Str) : Str :=
  match ca with
  | some t => if t.isEmpty then [] else commentLines [0x20] c t
  | none => []
def valPart (v : WVal) : Str :=
  match v with
  | .absent => []
  | .quoted q => QUOTE :: q ++ [QUOTE]
  | .plain l0 conts => l0 ++ conts.flatMap (fun l => NL :: l.render)

theorem writeEntry_parts (d c : Byte) (w : WEntry) :
    writeEntry d c w.toEntry = cbPart c w.cb ++ w.key ++ [d] ++ valPart w.val ++ caPart c w.ca ++ [NL] := by
  unfold writeEntry cbPart caPart valPart WEntry.toEntry
  cases w.val <;> rfl

theorem render_cbItems (c : Byte) (cb : Option Str) : render (cbItems c cb) = cbPart c cb := by
  unfold cbItems cbPart
  cases cb with
  | none => rfl
  | some t =>
    cases ht : t.isEmpty
    · simp only [hasText, ht, Bool.not_false, if_true, Option.getD_some, Bool.false_eq_true, if_false]
      rw [commentLines_items]
    · simp [hasText, ht, render_nil]

theorem val_lines (d c : Byte) (w : WEntry) :
    (w.entryI d c).value.render ++ [NL] ++ ((w.entryI d c).cont.map (fun l => l.render ++ [NL])).flatten =
      valPart w.val ++ [NL] := by
  unfold WEntry.entryI
  cases w.val with
  | absent => rfl
  | quoted q => simp [valPart, ValSpell.render]
  | plain l0 conts => exact (conts_render l0 conts).symm

theorem val_single (d c : Byte) (w : WEntry) (h : w.val.single = true) :
    (w.entryI d c).cont = [] ∧ (w.entryI d c).value.render = valPart w.val := by
  unfold WEntry.entryI
  cases hv : w.val with
  | absent => exact ⟨rfl, rfl⟩
  | quoted q => exact ⟨rfl, rfl⟩
  | plain l0 conts =>
    rw [hv] at h
    cases conts with
    | nil => exact ⟨rfl, by simp [valPart, ValSpell.render]⟩
    | cons a as => cases h

theorem entry_lines (e : EntryI) (hi : e.indent = []) (h1 : e.ws1 = []) (h2 : e.ws2 = []) :
    (Item.entry e).lines.flatten =
      e.key ++ e.d :: (e.value.render ++ (e.tws ++ TrailC.render e.tc ++ [NL] ++ (e.cont.map (fun l => l.render ++ [NL])).flatten)) := by
  simp [Item.lines, EntryI.body, hi, h1, h2]

theorem render_entry (d c : Byte) (w : WEntry) (h : w.WF d c) :
    render (cbItems c w.cb ++ [Item.entry (w.entryI d c)] ++ (if hasText w.ca then [Item.blank []] else [])) =
      writeEntry d c w.toEntry := by
  rw [render_append, render_append, render_single, render_cbItems, writeEntry_parts, entry_lines _ rfl rfl rfl]
  cases hca : hasText w.ca
  · -- no trailing comment
    have ht : (w.entryI d c).tws = [] ∧ (w.entryI d c).tc = none := by simp [WEntry.entryI, hca]
    have hcapart : caPart c w.ca = [] := by
      unfold caPart
      cases hc : w.ca with
      | none => rfl
      | some t =>
        have : t = [] := by rw [hc] at hca; simpa [hasText] using hca
        rw [this]; rfl
    have hv := val_lines d c w
    rw [ht.1, ht.2, hcapart]
    simp only [List.append_assoc, List.cons_append, List.nil_append, List.append_nil, TrailC.render,
      Bool.false_eq_true, if_false, render_nil] at hv ⊢
    rw [hv]
    rfl
  · -- a trailing comment: single-line value, one comment line, then the empty line
    obtain ⟨t, hc, htne⟩ := hasText_some hca
    obtain ⟨htt, _, _, hsingle⟩ := h.ca t hc htne
    have hs := val_single d c w hsingle
    have hca' : hasText (some t) = true := hc ▸ hca
    have ht : (w.entryI d c).tws = [0x20] ∧ (w.entryI d c).tc = some ⟨c, t⟩ := by simp [WEntry.entryI, hc, hca']
    have hcapart : caPart c w.ca = 0x20 :: c :: t ++ [NL] := by
      obtain ⟨a, as, rfl⟩ := List.exists_cons_of_ne_nil htne
      simp [caPart, hc, commentLines, splitOn_none NL _ (text_ne_NL htt)]
    rw [ht.1, ht.2, hcapart, hs.1, hs.2]
    simp [TrailC.render, render_single, Item.lines]
    rfl


theorem addBrackets_plain (g : Str) (h : ¬(g.head? = some LBR ∧ g.getLast? = some RBR)) : addBrackets g = LBR :: g ++ [RBR] := by
  unfold addBrackets
  by_cases h1 : (g.head? == some LBR) = true
  · by_cases h2 : (g.getLast? == some RBR) = true
    · exact absurd ⟨by simpa using h1, by simpa using h2⟩ h
    · simp [h1, h2]
  · simp [h1]

theorem render_hdrItems (prev : Option Str) (g : Str) (hg : g ≠ NONE → ¬(g.head? = some LBR ∧ g.getLast? = some RBR)) :
    render (hdrItems prev g) =
      if prev == some g then []
      else (if prev.isSome then [NL] else []) ++ (if g == NONE then [] else addBrackets g ++ [NL]) := by
  unfold hdrItems
  by_cases hp : (prev == some g) = true
  · rw [if_pos hp, if_pos hp]; rfl
  · rw [if_neg hp, if_neg hp, render_append]
    have h1 : render (if prev.isSome then [Item.blank []] else []) = if prev.isSome then [NL] else [] := by
      cases prev <;> rfl
    rw [h1]
    refine congrArg ((if prev.isSome then [NL] else []) ++ ·) ?_
    by_cases hn : (g == NONE) = true
    · rw [if_pos hn, if_pos hn]; rfl
    · rw [if_neg hn, if_neg hn, addBrackets_plain g (hg (fun h => hn (by rw [h]; exact beq_self_eq_true _)))]
      simp [render_single, Item.lines, TrailC.render]

/-- **the written bytes are the rendering of `docOf`** -/
theorem render_docOf (d c : Byte) (prev : Option Str) (ws : List WEntry) (h : ∀ w ∈ ws, w.WF d c) :
    render (docOf d c prev ws) = writeSeq d c prev (ws.map WEntry.toEntry) := by
  induction ws generalizing prev with
  | nil => rfl
  | cons w ws ih =>
    have hw := h w List.mem_cons_self
    simp only [docOf, List.map_cons, writeSeq]
    rw [render_append, ih (some w.group) (fun x hx => h x (List.mem_cons_of_mem _ hx))]
    refine congrArg (· ++ writeSeq d c (some w.group) (ws.map WEntry.toEntry)) ?_
    unfold WEntry.items
    rw [List.append_assoc, List.append_assoc, render_append, ← List.append_assoc (cbItems c w.cb), render_entry d c w hw,
      render_hdrItems prev w.group (fun hn => (hw.grp hn).2.2)]
    rfl


/-- the tags of the object: a delimiter character (blank – e.g. the space – or not) and a comment
    character -/
structure TagsWF (d c : Byte) : Prop where
  dt : isText d = true
  dq : d ≠ QUOTE
  dc : d ≠ c
  cns : isSpace c = false
  cq : c ≠ QUOTE
  cl : c ≠ LBR
  cr : c ≠ RBR
  c0 : c ≠ 0

def tagCfg (d c : Byte) : Cfg := { delim := [d], comment := [c] }

theorem tagCfg_eff (d c : Byte) : (tagCfg d c).eff = tagCfg d c := rfl

theorem mixed_single (d : Byte) : mixedDelim [d] = false := by
  unfold mixedDelim hasWsp hasNonWsp
  cases isSpace d <;> simp

theorem tagCfg_not_delim {d c x : Byte} (h : x ≠ d) : (tagCfg d c).delim.contains x = false := by
  simp [tagCfg, h]

theorem tagCfg_not_comment {d c x : Byte} (h : x ≠ c) : x ∉ (tagCfg d c).comment := by
  simp [tagCfg, h]

theorem tagCfg_comment {d c x : Byte} (h : x ∈ (tagCfg d c).comment) : x = c :=
  List.mem_singleton.mp h

theorem tagCfg_wf (d c : Byte) (h : TagsWF d c) : CfgWF (tagCfg d c) := by
  refine ⟨tagCfg_not_delim h.dq.symm, rfl, tagCfg_not_comment h.cq.symm, ?_, ?_, tagCfg_not_comment h.cl.symm,
    tagCfg_not_comment h.cr.symm, tagCfg_not_comment h.c0.symm⟩
  · intro x hx; cases tagCfg_comment hx; exact tagCfg_not_delim h.dc.symm
  · intro x hx; cases tagCfg_comment hx; exact h.cns

theorem entryI_wf (d c : Byte) (hT : TagsWF d c) (w : WEntry) (h : w.WF d c) :
    (w.entryI d c).WF (tagCfg d c) ∧ ∀ l ∈ (w.entryI d c).cont, l.WF (tagCfg d c) := by
  have nb : blanks ([] : Str) := by intro x hx; cases hx
  constructor
  · refine ⟨nb, h.keyNe, ?_, h.keyHead, nb, nb, ?_, ?_, hT.dt, hT.dq, ?_, ?_⟩
    · intro ch hch
      have := h.keyCh ch hch
      exact ⟨this.1, this.2.1, tagCfg_not_delim this.2.2.1, tagCfg_not_comment this.2.2.2.1, this.2.2.2.2⟩
    · simp only [WEntry.entryI]
      split
      · intro x hx; simp only [List.mem_singleton] at hx; subst hx; decide
      · intro x hx; cases hx
    · exact .inl (by simp [tagCfg] : (tagCfg d c).delim.contains d = true)
    · have hv := h.val
      simp only [WEntry.entryI]
      cases hval : w.val with
      | absent => exact ⟨(by intro x hx; cases hx), (by intro k _ hk; cases hk), (by intro x hx; cases hx), (by intro x hx; cases hx)⟩
      | quoted q => rw [hval] at hv; exact hv
      | plain l0 conts =>
        rw [hval] at hv
        refine ⟨hv.1, ?_, ?_, hv.2.2.2.1⟩
        · intro k hk; cases tagCfg_comment hk; exact hv.2.1
        · intro ch hch
          have := hv.2.2.1 ch hch
          refine ⟨this.1, this.2, ?_⟩
          intro hm; rw [show (tagCfg d c).delim = [d] from rfl, mixed_single] at hm; cases hm
    · simp only [WEntry.entryI]
      cases hca : hasText w.ca
      · trivial
      · obtain ⟨t, hc, htne⟩ := hasText_some hca
        have := h.ca t hc htne
        simp only [if_true, TrailC.WF, hc, Option.getD_some, tagCfg, List.mem_singleton]
        exact ⟨trivial, this.1, (by intro k hk; subst hk; exact this.2.1), this.2.2.1⟩
  · intro l hl
    have hv := h.val
    simp only [WEntry.entryI] at hl
    cases hval : w.val with
    | absent => rw [hval] at hl; cases hl
    | quoted q => rw [hval] at hl; cases hl
    | plain l0 conts =>
      rw [hval] at hl hv
      exact hv.2.2.2.2.2 l hl


theorem cbItems_wf (d c : Byte) (w : WEntry) (h : w.WF d c) : ∀ it ∈ cbItems c w.cb, it.WF (tagCfg d c) := by
  intro it hit
  unfold cbItems at hit
  split at hit
  · obtain ⟨l, hl, rfl⟩ := List.mem_map.mp hit
    cases hcb : w.cb with
    | none => rename_i hh; rw [hcb] at hh; cases hh
    | some t =>
      rw [hcb] at hl
      simp only [Option.getD_some] at hl
      refine ⟨(by intro x hx; cases hx), (by simp [tagCfg]), ?_⟩
      intro x hx
      have := mem_splitOn NL t l hl x hx
      have h0 := h.cb t hcb x this.1
      simp only [isText, bne_iff_ne, ne_eq, Bool.and_eq_true]
      exact ⟨h0, this.2⟩
  · cases hit

theorem items_wf (d c : Byte) (hT : TagsWF d c) (prev : Option Str) (w : WEntry) (h : w.WF d c) :
    ∀ it ∈ w.items d c prev, it.WF (tagCfg d c) := by
  intro it hit
  unfold WEntry.items hdrItems at hit
  have nb : blanks ([] : Str) := by intro x hx; cases hx
  simp only [List.mem_append, List.mem_singleton] at hit
  rcases hit with ((hit | hit) | hit) | hit
  · split at hit
    · cases hit
    · simp only [List.mem_append] at hit
      rcases hit with hit | hit
      · split at hit
        · simp only [List.mem_singleton] at hit; subst hit; exact nb
        · cases hit
      · split at hit
        · cases hit
        · rename_i hnn
          have hgrp := h.grp (by simpa using hnn)
          simp only [List.mem_singleton] at hit; subst hit
          refine ⟨nb, nb, hgrp.1, ?_, trivial⟩
          intro ch hch
          exact ⟨(hgrp.2.1 ch hch).1, by simp only [tagCfg, List.mem_singleton]; exact (hgrp.2.1 ch hch).2⟩
  · exact cbItems_wf d c w h it hit
  · subst hit
    have := entryI_wf d c hT w h
    exact ⟨this.1, this.2, fun _ => mixed_single d⟩
  · split at hit
    · simp only [List.mem_singleton] at hit; subst hit; exact nb
    · cases hit

theorem docOf_wf (d c : Byte) (hT : TagsWF d c) (prev : Option Str) (ws : List WEntry) (h : ∀ w ∈ ws, w.WF d c) :
    ∀ it ∈ docOf d c prev ws, it.WF (tagCfg d c) := by
  induction ws generalizing prev with
  | nil => intro it hit; cases hit
  | cons w ws ih =>
    intro it hit
    simp only [docOf, List.mem_append] at hit
    rcases hit with hit | hit
    · exact items_wf d c hT prev w (h w (by simp)) it hit
    · exact ih (some w.group) (fun x hx => h x (List.mem_cons_of_mem _ hx)) it hit

/-- what "the same" means for a text file: an absent text and the empty text are the same -/
def Entry.content (e : Entry) : Str × Str × Str × Bool × Str × Str :=
  (e.group, e.key, e.value.getD [], e.quotes, e.cb.getD [], e.ca.getD [])

/-- state of the reader between two entries of the written file -/
def Between (prev : Option Str) (st : PState) : Prop :=
  st.cb = none ∧ st.ca = none ∧
  (match prev with
   | none => st.curGroup = none
   | some g => if g = NONE then st.curGroup = none else st.curGroup = some g)

theorem addGroup_idem (gs : List Str) (g : Str) : addGroup (addGroup gs g) g = addGroup gs g := by
  by_cases h : gs.contains g = true
  · simp only [addGroup, h, if_true]
  · have h' : gs.contains g = false := by simpa using h
    have h2 : (gs ++ [g]).contains g = true := by simp
    simp only [addGroup, h', Bool.false_eq_true, if_false, h2, if_true]

theorem cb_fold (c : Byte) (st : PState) (cb : Option Str) (hst : st.cb = none) :
    let st' := (cbItems c cb).foldl expItem st
    st'.entries = st.entries ∧ st'.groups = st.groups ∧ st'.curGroup = st.curGroup ∧ st'.ca = st.ca ∧
    st'.cb.getD [] = cb.getD [] := by
  intro st'
  have hin : ∀ it ∈ cbItems c cb, it.inert = true := by
    intro it hit; unfold cbItems at hit; split at hit
    · obtain ⟨l, _, rfl⟩ := List.mem_map.mp hit; rfl
    · cases hit
  obtain ⟨n, cb', hs⟩ : ∃ n cb', st' = { st with line := n, cb := cb' } := inert_block st (cbItems c cb) hin
  have hcb := inert_block_cb st (cbItems c cb) hin
  refine ⟨by rw [hs], by rw [hs], by rw [hs], by rw [hs], ?_⟩
  show ((cbItems c cb).foldl expItem st).cb.getD [] = _
  rw [hcb, hst]
  unfold cbItems
  cases hh : hasText cb
  · simp only [Bool.false_eq_true, if_false, commentTexts, List.foldl_nil, Option.getD_none]
    exact (getD_of_not_hasText hh).symm
  · simp only [if_true]
    have hct : ∀ ps : List Str, commentTexts (ps.map (fun l => Item.comment [] c l)) = ps := by
      intro ps; induction ps with
      | nil => rfl
      | cons p ps ih => simp [commentTexts, ih]
    rw [hct]
    cases hsp : splitOn NL (cb.getD []) with
    | nil =>
      have := joinWith_splitOn NL (cb.getD [])
      rw [hsp] at this
      simp only [List.foldl_nil, Option.getD_none]; exact this
    | cons p ps =>
      rw [List.foldl_cons]
      show (ps.foldl appendComment (some p)).getD [] = _
      rw [appendComment_fold ps p, ← hsp, joinWith_splitOn]; rfl


/-- group-less entries only at the start: an entry without section is never written behind a sectioned one -/
def OrderedG : Option Str → List Str → Prop
  | _, [] => True
  | prev, g :: gs => (g = NONE → prev = none ∨ prev = some NONE) ∧ OrderedG (some g) gs

def Ordered (prev : Option Str) (ws : List WEntry) : Prop := OrderedG prev (ws.map (·.group))

theorem hdr_fold (prev : Option Str) (g : Str) (st : PState) (hb : Between prev st)
    (ho : g = NONE → prev = none ∨ prev = some NONE) :
    let st1 := (hdrItems prev g).foldl expItem st
    st1.entries = st.entries ∧ st1.cb = none ∧ st1.ca = none ∧
    (if g = NONE then st1.curGroup = none else st1.curGroup = some g) ∧
    addGroup st1.groups g = addGroup st.groups g := by
  intro st1
  obtain ⟨hcb, hca, hcg⟩ := hb
  by_cases hp : (prev == some g) = true
  · have hpe : prev = some g := eq_of_beq hp
    have : st1 = st := by
      show (hdrItems prev g).foldl expItem st = st
      rw [hdrItems, if_pos hp]; rfl
    rw [this]
    subst hpe
    exact ⟨rfl, hcb, hca, hcg, rfl⟩
  · -- a new section starts (or the first entry is written)
    have hst0 : ∀ s : PState, ((if prev.isSome then [Item.blank []] else []) : List Item).foldl expItem s =
        (if prev.isSome then { s with line := s.line + 1 } else s) := by
      intro s; cases prev <;> rfl
    by_cases hn : g = NONE
    · have hpn : prev = none := by
        rcases ho hn with h | h
        · exact h
        · rw [h, hn] at hp; exact absurd (beq_self_eq_true _) hp
      subst hpn
      have : st1 = st := by
        show (hdrItems none g).foldl expItem st = st
        rw [hdrItems, if_neg hp, hn]; rfl
      rw [this]
      exact ⟨rfl, hcb, hca, (by rw [if_pos hn]; exact hcg), rfl⟩
    · have hnb : (g == NONE) = false := beq_false_of_ne hn
      have : st1 = expItem (if prev.isSome then { st with line := st.line + 1 } else st) (.sect [] g [] none) := by
        show (hdrItems prev g).foldl expItem st = _
        simp only [hdrItems, hp, Bool.false_eq_true, if_false, hnb, List.foldl_append, hst0, List.foldl_cons, List.foldl_nil]
      rw [this]
      simp only [hn, if_false]
      cases prev <;> simp [expItem, caWith, hcb, hca, addGroup_idem]


theorem expValue_empty (e : EntryI) (h : e.value = .plain []) :
    e.expValue = (none, false) ∨ e.expValue = (some [], false) := by
  unfold EntryI.expValue
  rw [h]
  simp only [List.isEmpty_nil, if_true]
  split
  · left; rfl
  · right; rfl

theorem reread_value (d c : Byte) (w : WEntry) (h : w.WF d c) :
    (contValue (w.entryI d c).expValue.1 (w.entryI d c).cont).getD [] = w.val.value.getD [] ∧
    (w.entryI d c).expValue.2 = w.val.quotes := by
  have hv := h.val
  cases hval : w.val with
  | absent =>
    have h1 : (w.entryI d c).value = .plain [] := by simp [WEntry.entryI, hval]
    have h2 : (w.entryI d c).cont = [] := by simp [WEntry.entryI, hval]
    rw [h2]
    rcases expValue_empty _ h1 with h3 | h3 <;> (rw [h3]; exact ⟨rfl, rfl⟩)
  | quoted q =>
    have h1 : (w.entryI d c).expValue = (some q, true) := by simp [WEntry.entryI, hval, EntryI.expValue]
    have h2 : (w.entryI d c).cont = [] := by simp [WEntry.entryI, hval]
    rw [h1, h2]; exact ⟨rfl, rfl⟩
  | plain l0 conts =>
    rw [hval] at hv
    cases l0 with
    | nil =>
      have : conts = [] := by
        cases conts with
        | nil => rfl
        | cons a as => exact absurd rfl (hv.2.2.2.2.1 (by simp))
      subst this
      have h1 : (w.entryI d c).value = .plain [] := by simp [WEntry.entryI, hval]
      have h2 : (w.entryI d c).cont = [] := by simp [WEntry.entryI, hval]
      rw [h2]
      rcases expValue_empty _ h1 with h3 | h3 <;> (rw [h3]; exact ⟨rfl, rfl⟩)
    | cons a as =>
      have h1 : (w.entryI d c).expValue = (some (a :: as), false) := by
        simp [WEntry.entryI, hval, EntryI.expValue]
      have h2 : (w.entryI d c).cont = conts := by simp [WEntry.entryI, hval]
      rw [h1, h2, contValue_flat]
      exact ⟨rfl, rfl⟩

theorem reread_ca (d c : Byte) (w : WEntry) (h : w.WF d c) :
    ((caWith none (w.entryI d c).tc).map (· ++ List.replicate (w.entryI d c).cont.length NL)).getD [] = w.ca.getD [] := by
  cases hca : hasText w.ca
  · have h1 : (w.entryI d c).tc = none := by simp [WEntry.entryI, hca]
    rw [h1]
    exact (getD_of_not_hasText hca).symm
  · obtain ⟨t, hc, htne⟩ := hasText_some hca
    have hs := (h.ca t hc htne).2.2.2
    have hca' : hasText (some t) = true := hc ▸ hca
    have h1 : (w.entryI d c).tc = some ⟨c, t⟩ := by simp [WEntry.entryI, hca', hc]
    have h2 : (w.entryI d c).cont = [] := by
      simp only [WEntry.entryI]
      cases hval : w.val with
      | absent => rfl
      | quoted q => rfl
      | plain l0 conts => rw [hval] at hs; simpa [WVal.single] using hs
    rw [h1, h2, hc]
    simp [caWith, appendComment]

theorem entry_reread (d c : Byte) (hT : TagsWF d c) (prev : Option Str) (w : WEntry) (st : PState)
    (h : w.WF d c) (hb : Between prev st) (ho : w.group = NONE → prev = none ∨ prev = some NONE) :
    ∃ x, ((w.items d c prev).foldl expItem st).entries = st.entries ++ [x] ∧
      x.content = w.toEntry.content ∧
      ((w.items d c prev).foldl expItem st).groups = addGroup st.groups w.group ∧
      Between (some w.group) ((w.items d c prev).foldl expItem st) := by
  unfold WEntry.items
  rw [List.foldl_append, List.foldl_append, List.foldl_append]
  obtain ⟨e1, cb1, ca1, cg1, g1⟩ := hdr_fold prev w.group st hb ho
  generalize (hdrItems prev w.group).foldl expItem st = st1 at e1 cb1 ca1 cg1 g1
  obtain ⟨e2, g2, cg2, ca2, cb2⟩ := cb_fold c st1 w.cb cb1
  generalize (cbItems c w.cb).foldl expItem st1 = st2 at e2 g2 cg2 ca2 cb2
  have hwf := entryI_wf d c hT w h
  simp only [List.foldl_cons, List.foldl_nil]
  have h3 := C02_entry_item (tagCfg d c) st2 _ hwf.1
  have hgrp : st2.curGroup.getD NONE = w.group := by
    rw [cg2]
    by_cases hn : w.group = NONE
    · rw [if_pos hn] at cg1; rw [cg1, hn]; rfl
    · rw [if_neg hn] at cg1; rw [cg1]; rfl
  have hkey : (w.entryI d c).key = w.key := rfl
  have hrv := reread_value d c w h
  have hrc := reread_ca d c w h
  generalize expItem st2 (.entry (w.entryI d c)) = st3 at h3
  have htail : ∀ s : PState,
      (List.foldl expItem s (if hasText w.ca then [Item.blank []] else [])).entries = s.entries ∧
      (List.foldl expItem s (if hasText w.ca then [Item.blank []] else [])).groups = s.groups ∧
      (List.foldl expItem s (if hasText w.ca then [Item.blank []] else [])).curGroup = s.curGroup ∧
      (List.foldl expItem s (if hasText w.ca then [Item.blank []] else [])).cb = s.cb ∧
      (List.foldl expItem s (if hasText w.ca then [Item.blank []] else [])).ca = s.ca := by
    intro s; cases hasText w.ca <;> exact ⟨rfl, rfl, rfl, rfl, rfl⟩
  obtain ⟨t1, t2, t3, t4, t5⟩ := htail st3
  generalize List.foldl expItem st3 (if hasText w.ca then [Item.blank []] else []) = st4 at t1 t2 t3 t4 t5
  refine ⟨entryOf st2 (w.entryI d c), ?_, ?_, ?_, ?_⟩
  · rw [t1, h3, ← e1, ← e2]; rfl
  · simp only [entryOf, Entry.content, WEntry.toEntry, hgrp, hkey, hrv.1, hrv.2, cb2, ca2, ca1, hrc]
  · rw [t2, h3, ← g1, ← g2, hgrp]
  · refine ⟨by rw [t4, h3], by rw [t5, h3], ?_⟩
    show if w.group = NONE then _ else _
    rw [t3, h3]
    rw [cg2]
    exact cg1


/-- the whole written document, read back -/
theorem doc_reread (d c : Byte) (hT : TagsWF d c) (ws : List WEntry) (prev : Option Str) (st : PState)
    (h : ∀ w ∈ ws, w.WF d c) (hb : Between prev st) (ho : Ordered prev ws) :
    ((docOf d c prev ws).foldl expItem st).entries.map Entry.content =
      st.entries.map Entry.content ++ ws.map (fun w => w.toEntry.content) ∧
    ((docOf d c prev ws).foldl expItem st).groups = (ws.map (·.group)).foldl addGroup st.groups := by
  induction ws generalizing prev st with
  | nil => simp [docOf]
  | cons w ws ih =>
    obtain ⟨x, he, hx, hg, hb'⟩ := entry_reread d c hT prev w st (h w (by simp)) hb ho.1
    have := ih (some w.group) _ (fun y hy => h y (List.mem_cons_of_mem _ hy)) hb' ho.2
    simp only [docOf, List.foldl_append, List.map_cons, List.foldl_cons]
    rw [this.1, this.2, he, hg, List.map_append, List.map_cons, List.map_nil, hx]
    simp

theorem orderedG_sectioned (prev : Option Str) (gs : List Str) (h : ∀ g ∈ gs, g ≠ NONE) : OrderedG prev gs := by
  induction gs generalizing prev with
  | nil => trivial
  | cons g gs ih =>
    exact ⟨fun hg => absurd hg (h g (by simp)), ih _ (fun x hx => h x (List.mem_cons_of_mem _ hx))⟩

theorem orderedG_groupless_first (prev : Option Str) (a b : List Str) (hp : prev = none ∨ prev = some NONE)
    (ha : ∀ g ∈ a, g = NONE) (hb : ∀ g ∈ b, g ≠ NONE) : OrderedG prev (a ++ b) := by
  induction a generalizing prev with
  | nil => exact orderedG_sectioned prev b hb
  | cons g gs ih =>
    have hg := ha g (by simp)
    refine ⟨fun _ => hp, ?_⟩
    exact ih (some g) (Or.inr (by rw [hg])) (fun x hx => ha x (List.mem_cons_of_mem _ hx))

/-- the order of writing puts the group-less entries first -/
theorem ordered_writeOrder (es : List Entry) : OrderedG none ((writeOrder es).map (·.group)) := by
  unfold writeOrder
  rw [List.map_append]
  apply orderedG_groupless_first none _ _ (Or.inl rfl)
  · intro g hg
    obtain ⟨e, he, rfl⟩ := List.mem_map.mp hg
    have := (List.mem_filter.mp he).2
    simpa using this
  · intro g hg
    obtain ⟨e, he, rfl⟩ := List.mem_map.mp hg
    have := (List.mem_filter.mp he).2
    simpa using this

/-- the order of writing keeps the order of the entries of every section -/
theorem writeOrder_section (es : List Entry) (g : Str) :
    (writeOrder es).filter (fun e => e.group == g) = es.filter (fun e => e.group == g) := by
  unfold writeOrder
  rw [List.filter_append, List.filter_filter, List.filter_filter]
  by_cases hg : g = NONE
  · subst hg
    have h1 : (fun e : Entry => (e.group == NONE && e.group == NONE)) = fun e => e.group == NONE := by
      funext e; cases (e.group == NONE) <;> rfl
    have h2 : (fun e : Entry => (e.group == NONE && e.group != NONE)) = fun _ => false := by
      funext e; cases h : (e.group == NONE) <;> simp [bne, h]
    rw [h1, h2]; simp
  · have h1 : (fun e : Entry => (e.group == g && e.group == NONE)) = fun _ => false := by
      funext e
      cases h : (e.group == g)
      · rfl
      · have : e.group = g := by simpa using h
        simp [this, hg]
    have h2 : (fun e : Entry => (e.group == g && e.group != NONE)) = fun e => e.group == g := by
      funext e
      cases h : (e.group == g)
      · rfl
      · have : e.group = g := by simpa using h
        simp [this, hg]
    rw [h1, h2]; simp


end Econf
